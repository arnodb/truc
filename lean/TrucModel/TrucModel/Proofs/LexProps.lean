import TrucModel.Model.TypeName
/-
  The lexer of the type-name model ignores whitespace: any two spellings with the same token sequence
  lex identically (C17, second sentence).
-/
namespace Truc.TN

inductive Tok where
  | ident (cs : List Char)
  | colons
  | punct (c : Char)

def Tok.chars : Tok → List Char
  | .ident cs => cs
  | .colons => [':', ':']
  | .punct c => [c]

def Tok.str (t : Tok) : String := String.ofList t.chars

def Tok.isIdent : Tok → Bool
  | .ident _ => true
  | _ => false

/-- identifiers are non-empty runs of identifier characters; punctuation is a single character that
    is neither an identifier character, nor whitespace, nor `:` -/
def Tok.wf : Tok → Prop
  | .ident cs => cs ≠ [] ∧ ∀ c ∈ cs, isIdentChar c = true
  | .colons => True
  | .punct c => isIdentChar c = false ∧ c.isWhitespace = false ∧ c ≠ ':'

def allWs (l : List Char) : Prop := ∀ c ∈ l, c.isWhitespace = true

theorem ws_not_ident {c : Char} (h : c.isWhitespace = true) : isIdentChar c = false ∧ c ≠ ':' := by
  simp only [Char.isWhitespace, Bool.or_eq_true, decide_eq_true_eq] at h
  rcases h with ((rfl | rfl) | rfl) | rfl <;> exact ⟨by decide, by decide⟩

theorem ident_not_colon {c : Char} (h : isIdentChar c = true) : c ≠ ':' := by
  intro hc; subst hc; revert h; decide

theorem lex_nil (cur : List Char) (acc : List String) : lex [] cur acc = flushCur cur acc := lex.eq_1 ..

theorem lex_colons (rest cur : List Char) (acc : List String) :
    lex (':' :: ':' :: rest) cur acc = lex rest [] (flushCur cur acc ++ ["::"]) := lex.eq_2 ..

theorem lex_cons {c : Char} (h : c ≠ ':') (rest cur : List Char) (acc : List String) :
    lex (c :: rest) cur acc =
      if isIdentChar c then lex rest (cur ++ [c]) acc
      else if c.isWhitespace then lex rest [] (flushCur cur acc)
      else lex rest [] (flushCur cur acc ++ [String.ofList [c]]) :=
  lex.eq_3 _ _ _ _ fun _ hc _ => h hc

theorem lex_ident (cs rest : List Char) (cur : List Char) (acc : List String) (h : ∀ c ∈ cs, isIdentChar c = true) :
    lex (cs ++ rest) cur acc = lex rest (cur ++ cs) acc := by
  induction cs generalizing cur with
  | nil => simp
  | cons c cs ih =>
    have hc := h c List.mem_cons_self
    rw [List.cons_append, lex_cons (ident_not_colon hc)]
    simp only [hc, if_true]
    rw [ih (cur ++ [c]) (fun x hx => h x (List.mem_cons_of_mem _ hx))]
    simp

theorem lex_punct (c : Char) (rest cur : List Char) (acc : List String)
    (h : isIdentChar c = false ∧ c.isWhitespace = false ∧ c ≠ ':') :
    lex (c :: rest) cur acc = lex rest [] (flushCur cur acc ++ [String.ofList [c]]) := by
  rw [lex_cons h.2.2]
  simp [h.1, h.2.1]

/-- a spelling: separator, token, separator, token, …, trailing separator -/
def render : List (List Char × Tok) → List Char → List Char
  | [], trailing => trailing
  | (sep, t) :: more, trailing => sep ++ t.chars ++ render more trailing

/-- separators are whitespace; two identifiers in a row are separated by at least one character -/
def Spaced : Bool → List (List Char × Tok) → Prop
  | _, [] => True
  | prevIdent, (sep, t) :: more =>
    allWs sep ∧ t.wf ∧ (prevIdent = true → t.isIdent = true → sep ≠ []) ∧ Spaced t.isIdent more

theorem flushCur_nil (acc : List String) : flushCur [] acc = acc := rfl

/-- The lexer's state `(cur, acc)` is followed only through what it would flush, `flushCur cur acc`, and through
    whether something is pending: a separator leaves the flush as it is, a token appends itself to it. -/
theorem lex_sep (ws rest : List Char) (h : allWs ws) (cur : List Char) (acc : List String) :
    ∃ cur' acc', lex (ws ++ rest) cur acc = lex rest cur' acc' ∧ flushCur cur' acc' = flushCur cur acc ∧
      (cur' ≠ [] → ws = [] ∧ cur' = cur) := by
  induction ws generalizing cur acc with
  | nil => exact ⟨cur, acc, rfl, rfl, fun _ => ⟨rfl, rfl⟩⟩
  | cons w ws ih =>
    have hw := h w List.mem_cons_self
    obtain ⟨hni, hnc⟩ := ws_not_ident hw
    obtain ⟨cur', acc', h1, h2, h3⟩ := ih (fun c hc => h c (List.mem_cons_of_mem _ hc)) [] (flushCur cur acc)
    refine ⟨cur', acc', ?_, h2, fun hne => absurd (h3 hne).2 hne⟩
    rw [List.cons_append, lex_cons hnc, ← h1]
    simp only [hni, Bool.false_eq_true, if_false, hw, if_true]

/-- nothing may be pending in front of an identifier: it would be glued to it -/
theorem lex_tok {t : Tok} (hwf : t.wf) (rest cur : List Char) (acc : List String) (hc : cur ≠ [] → t.isIdent = false) :
    ∃ cur' acc', lex (t.chars ++ rest) cur acc = lex rest cur' acc' ∧
      flushCur cur' acc' = flushCur cur acc ++ [t.str] ∧ (!cur'.isEmpty) = t.isIdent := by
  cases t with
  | ident cs =>
    obtain rfl : cur = [] := Decidable.byContradiction fun hne => Bool.noConfusion (hc hne)
    obtain ⟨c, cs', rfl⟩ := List.exists_cons_of_ne_nil hwf.1
    exact ⟨c :: cs', acc, lex_ident _ rest [] acc hwf.2, rfl, rfl⟩
  | colons => exact ⟨[], flushCur cur acc ++ ["::"], lex_colons rest cur acc, rfl, rfl⟩
  | punct c => exact ⟨[], flushCur cur acc ++ [String.ofList [c]], lex_punct c rest cur acc hwf, rfl, rfl⟩

theorem lex_render : ∀ (items : List (List Char × Tok)) (trailing cur : List Char) (acc : List String),
    allWs trailing → Spaced (!cur.isEmpty) items →
    lex (render items trailing) cur acc = flushCur cur acc ++ items.map (fun p => p.2.str) := by
  intro items
  induction items with
  | nil =>
    intro trailing cur acc htr _
    obtain ⟨cur', acc', h1, h2, -⟩ := lex_sep trailing [] htr cur acc
    rw [List.append_nil] at h1
    rw [render, h1, lex_nil, h2, List.map_nil, List.append_nil]
  | cons p more ih =>
    intro trailing cur acc htr hsp
    obtain ⟨sep, t⟩ := p
    obtain ⟨hsep, hwf, hadj, hmore⟩ := hsp
    obtain ⟨cur₁, acc₁, h₁, hfl₁, hc₁⟩ := lex_sep sep (t.chars ++ render more trailing) hsep cur acc
    -- if an identifier is still pending, the separator was empty, so the token is not an identifier
    have hc₁' : cur₁ ≠ [] → t.isIdent = false := fun hne => by
      obtain ⟨rfl, rfl⟩ := hc₁ hne
      exact Bool.eq_false_iff.2 fun hti => hadj (by rw [List.isEmpty_eq_false_iff.2 hne]; rfl) hti rfl
    obtain ⟨cur₂, acc₂, h₂, hfl₂, hc₂⟩ := lex_tok hwf (render more trailing) cur₁ acc₁ hc₁'
    rw [render, List.append_assoc, h₁, h₂, ih trailing cur₂ acc₂ htr (hc₂ ▸ hmore), hfl₂, hfl₁, List.map_cons,
      List.append_assoc]
    rfl

def parseChars (cs : List Char) : Option Ty :=
  let ts := lex cs [] []
  match parseTy (2 * ts.length + 2) ts with
  | some (t, []) => some t
  | _ => none

/-- also the way to evaluate `normalize` on a literal: `String.toList` of a literal costs the kernel several times
    what lexing, parsing and printing cost -/
theorem normalize_ofList (cs : List Char) :
    normalize (String.ofList cs) = (parseChars cs).map (fun t => print (rewrite t)) := by
  rw [normalize, parse, String.toList_ofList]
  rfl

end Truc.TN
