import TrucModel.Proofs.Refine
/-
  Every record that generated code can produce satisfies the record invariant: constructors
  establish it; conversions (any form, any chain) and writes through mutable accessors keep it.
-/
namespace Truc.Mach
open Truc.Gen

/-- the records generated code can produce: built by a constructor, converted (any form), written to -/
inductive Reach (dr : String → Bool) (cap : Nat) (specs : List Spec) : Nat → Buf → Prop where
  | new (k : Nat) (s : Spec) (vals : List Val) (st : St) (b : Buf) :
      specs[k]? = some s → vals.length = s.data.length → (∀ p ∈ s.data.zip vals, p.2.ty = p.1.ty) →
      call dr cap (ctorNew s) { args := [("from", fieldsOf s.data vals)] } = .ok st → st.result = .record b → Reach dr cap specs k b
  | newUninit (k : Nat) (s : Spec) (vals : List Val) (st : St) (b : Buf) :
      specs[k]? = some s → vals.length = (s.data.filter (fun d => !d.uninit)).length →
      (∀ p ∈ (s.data.filter (fun d => !d.uninit)).zip vals, p.2.ty = p.1.ty) →
      call dr cap (ctorNewUninit s) { args := [("from", fieldsOf (s.data.filter (fun d => !d.uninit)) vals)] } = .ok st →
      st.result = .record b → Reach dr cap specs k b
  | conv (k : Nat) (s0 s : Spec) (b0 : Buf) (uninit andOut : Bool) (vals : List Val) (st : St) (b2 : Buf) :
      Reach dr cap specs k b0 → specs[k]? = some s0 → specs[k + 1]? = some s →
      vals.length = (plusWritten s uninit).length → (∀ p ∈ (plusWritten s uninit).zip vals, p.2.ty = p.1.ty) →
      call dr cap (convFn s uninit andOut)
        { from_ := some b0, fromGlue := some s0.data, args := [("plus", fieldsOf (plusWritten s uninit) vals)] } = .ok st →
      (st.result = .record b2 ∨ ∃ fs, st.result = .struct fs (some b2)) → Reach dr cap specs (k + 1) b2
  | set (k : Nat) (s : Spec) (b : Buf) (d : D) (v : Val) :
      Reach dr cap specs k b → specs[k]? = some s → d ∈ s.data → v.ty = d.ty → Reach dr cap specs k (b.assign dr d v).1

theorem reach_inv (dr : String → Bool) (cap : Nat) (specs : List Spec) (hm : ModuleWF dr cap specs) :
    ∀ k b, Reach dr cap specs k b → ∃ s, specs[k]? = some s ∧ b.cap = cap ∧ RecInv dr b s.data := by
  intro k b h
  induction h with
  | new k s vals st b hs hl hty hcall hres =>
    have hwf := hm.data s (List.mem_of_getElem? hs)
    rw [ctorNew_ok dr cap s hwf vals hl] at hcall
    rw [← Except.ok.inj hcall] at hres
    rw [← Result.record.inj hres]
    exact ⟨s, hs, rfl, RecInv.built_all dr hwf.apart hl hty⟩
  | newUninit k s vals st b hs hl hty hcall hres =>
    have hmem := List.mem_of_getElem? hs
    rw [ctorNewUninit_ok dr cap s (hm.data s hmem) vals hl] at hcall
    rw [← Except.ok.inj hcall] at hres
    rw [← Result.record.inj hres]
    exact ⟨s, hs, rfl, RecInv.built dr cap (hm.data s hmem).apart List.filter_sublist
      (fun d hd hn => hm.pod s hmem d hd (by simpa [hd] using hn)) hl hty⟩
  | conv k s0 s b0 uninit andOut vals st b2 _ hs0 hs hl hty hcall hres ih =>
    obtain ⟨s0', hs0', hc0, hinv0⟩ := ih
    obtain rfl : s0 = s0' := Option.some.inj (hs0.symm.trans hs0')
    obtain ⟨hcw, hrec, hpod, hz⟩ := hm.convPremises hs0 hs
    obtain ⟨b2', st', hcall', hc2, hresult, _, _, hinv2⟩ := conv_ok dr cap s0 s uninit andOut hcw b0 hc0 hinv0 hrec hpod hz vals hl hty
    obtain rfl : st = st' := Except.ok.inj (hcall.symm.trans hcall')
    obtain rfl : b2' = b2 := by
      cases andOut
      · simpa [hresult.1] using hres
      · simpa [hresult.1] using hres
    exact ⟨s, hs, hc2, hinv2⟩
  | set k s b d v _ hs hd hv ih =>
    obtain ⟨s', hs', hc, hinv⟩ := ih
    obtain rfl : s = s' := Option.some.inj (hs.symm.trans hs')
    exact ⟨s, hs, by rw [assign_cap]; exact hc, RecInv.assign dr b s.data hinv d hd v hv⟩

end Truc.Mach
