import TrucModel.Model.CloneSerde
/-
  The two element loops of the fragments (`readElems`, `cloneFields`), read through a prefix on which
  nothing goes wrong, and `clone_from` with a panicking clone as the plain one on a prefix (for C15 and C16).
-/
namespace Truc.Frag
open Truc.Gen Truc.Mach

@[simp] theorem length_serialize (vals : List Val) : (serialize vals).length = vals.length := by simp [serialize]

theorem readElems_serialize_append (dr : String → Bool) (rest : List (Option Val)) :
    ∀ (pre : List Val) (ds : List D) (acc : List Val) (k : Nat), pre.length ≤ ds.length →
      readElems dr k ds (serialize pre ++ rest) acc =
        readElems dr (k + pre.length) (ds.drop pre.length) rest (acc ++ pre) := by
  intro pre
  induction pre with
  | nil => intro ds acc k _; simp [serialize]
  | cons v vs ih =>
    intro ds acc k h
    cases ds with
    | nil => simp at h
    | cons d ds =>
      have := ih ds (acc ++ [v]) (k + 1) (Nat.le_of_succ_le_succ h)
      simpa [serialize, readElems, Nat.add_comm, Nat.add_left_comm] using this

theorem cloneFields_append (dr : String → Bool) (cl : Val → Val) (bomb : Val → Bool) (rest : List (D × Val)) :
    ∀ (pre : List (D × Val)) (acc : List Val), (∀ p ∈ pre, p.1.uninit = true ∨ bomb p.2 = false) →
      cloneFields dr cl bomb (pre ++ rest) acc =
        cloneFields dr cl bomb rest (acc ++ pre.map fun p => if p.1.uninit then p.2 else cl p.2) := by
  intro pre
  induction pre with
  | nil => intro acc _; simp
  | cons p pre ih =>
    intro acc hp
    obtain ⟨h, hpre⟩ := List.forall_mem_cons.1 hp
    rw [List.map_cons, List.append_cons, ← ih _ hpre, List.cons_append, cloneFields]
    cases h with
    | inl hu =>
      rw [hu]
      rfl
    | inr hb =>
      rw [hb]
      cases p.1.uninit <;> rfl

/-- the plain `clone_from` up to the first field (`n`) whose clone panics; from there on nothing changes -/
theorem cloneFromBomb_eq (dr : String → Bool) (cl : Val → Val) (bomb : Val → Bool) (fs : List (D × Val × Val)) :
    ∀ n, fs.findIdx (fun p => !p.1.uninit && bomb p.2.1) = n →
      cloneFromBomb dr cl bomb fs =
        ((cloneFromFields dr cl (fs.take n)).1 ++ (fs.drop n).map (·.2.2), (cloneFromFields dr cl (fs.take n)).2,
          fs.findIdx? fun p => !p.1.uninit && bomb p.2.1) := by
  induction fs with
  | nil => rintro _ rfl; rfl
  | cons p rest ih =>
    rintro _ rfl
    rw [cloneFromBomb, List.findIdx_cons, List.findIdx?_cons, ih _ rfl]
    cases (!p.1.uninit && bomb p.2.1) <;> rfl

end Truc.Frag
