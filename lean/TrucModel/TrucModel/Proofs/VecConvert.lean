import TrucModel.Model.VecConvert
/-
  The loop of `try_convert_vec_in_place` refines the left-to-right specification: the three-region
  invariant (outputs, dead, inputs) as a representation function.
-/
namespace Truc.Vec

variable {T U E P : Type}

def repr (outs : List U) (d : Nat) (rest : List T) : List (Slot T U) :=
  outs.map .out ++ (List.replicate d .dead ++ rest.map .inp)

theorem repr_length (outs : List U) (d : Nat) (rest : List T) :
    (repr outs d rest : List (Slot T U)).length = outs.length + d + rest.length := by
  simp [repr, Nat.add_assoc]

theorem repr_get_ft (outs : List U) (d : Nat) (t : T) (rest : List T) :
    (repr outs d (t :: rest) : List (Slot T U))[outs.length + d]? = some (.inp t) := by
  simp [repr]

theorem repr_set_ft (outs : List U) (d : Nat) (t : T) (rest : List T) :
    (repr outs d (t :: rest) : List (Slot T U)).set (outs.length + d) .dead = repr outs (d + 1) rest := by
  simp [repr, List.replicate_succ']

theorem repr_get_fm (outs : List U) (d : Nat) (rest : List T) :
    (repr outs (d + 1) rest : List (Slot T U))[outs.length]? = some .dead := by
  simp [repr, List.replicate_succ]

theorem repr_set_fm (outs : List U) (d : Nat) (rest : List T) (u : U) :
    (repr outs (d + 1) rest : List (Slot T U)).set outs.length (.out u) = repr (outs ++ [u]) d rest := by
  simp [repr, List.replicate_succ]

theorem repr_take_fm (outs : List U) (d : Nat) (rest : List T) :
    (repr outs d rest : List (Slot T U)).take outs.length = outs.map .out := by
  simp [repr]

theorem repr_drop_fm (outs : List U) (d : Nat) (rest : List T) :
    (repr outs d rest : List (Slot T U)).drop outs.length = List.replicate d .dead ++ rest.map .inp := by
  simp [repr]

theorem repr_drop_ft (outs : List U) (d : Nat) (rest : List T) :
    (repr outs d rest : List (Slot T U)).drop (outs.length + d) = rest.map .inp := by
  simp [repr, List.drop_append]

theorem setLast_length (outs : List U) (p : Option U) : (setLast outs p).length = outs.length := by
  unfold setLast; split <;> simp

theorem writePrev_repr (outs : List U) (d : Nat) (rest : List T) (p : Option U) :
    writePrev (repr outs d rest : List (Slot T U)) outs.length p = repr (setLast outs p) d rest := by
  unfold writePrev setLast
  cases hn : outs.length with
  | zero => rfl
  | succ n =>
    cases p with
    | none => rfl
    | some u =>
      -- slot `n` lies in the first region
      show (repr outs d rest).set n (.out u) = repr (outs.set n u) d rest
      rw [repr, repr, List.map_set, List.set_append_left]
      rw [List.length_map, hn]
      exact Nat.lt_succ_self n

theorem getPrev_repr (outs : List U) (d : Nat) (rest : List T) :
    getPrev (repr outs d rest : List (Slot T U)) outs.length = .ok outs.getLast? := by
  unfold getPrev
  rcases outs.eq_nil_or_concat with rfl | ⟨init, u, rfl⟩
  · rfl
  · simp [repr]

theorem filter_live_replicate (d : Nat) : (List.replicate d (Slot.dead : Slot T U)).filter isLive = [] :=
  List.filter_replicate_of_neg (by simp [isLive])

theorem cleanup_repr (why : Sum E P) (outs : List U) (d : Nat) (rest : List T) (calls : List (T × Option U)) :
    cleanup why (repr outs d rest : List (Slot T U)) outs.length (outs.length + d) calls =
      .failed why (outs.map .out ++ rest.map .inp) [] true calls := by
  have hmid : ((repr outs d rest : List (Slot T U)).take (outs.length + d)).drop outs.length = List.replicate d .dead := by
    simp [repr, List.take_append]
  simp [cleanup, repr_take_fm, repr_drop_ft, hmid, isOut, isInp, filter_live_replicate]

/-- what the specification's result looks like as a result of the real function -/
def ofSpec : SpecOut T U E P → VOut T U E P
  | .ok outs calls => .done (outs.map .out) [] calls
  | .failed why outs rest calls => .failed why (outs.map .out ++ rest.map .inp) [] true calls

theorem vloop_done (conv : Nat → T → Option U → COut U E P) (fuel : Nat) (s : VS T U) (h : s.slots.length ≤ s.ft) :
    vloop conv fuel s = .done (s.slots.take s.fm) ((s.slots.drop s.fm).filter isLive) s.calls := by
  cases fuel with
  | zero => rfl
  | succ f => exact if_neg (Nat.not_lt.2 h)

theorem vloop_refines (conv : Nat → T → Option U → COut U E P) :
    ∀ (rest : List T) (outs : List U) (d : Nat) (calls : List (T × Option U)) (k : Nat),
      vloop conv (rest.length + k) ⟨repr outs d rest, outs.length, outs.length + d, calls⟩ = ofSpec (spec conv rest outs calls) := by
  intro rest
  induction rest with
  | nil =>
    intro outs d calls k
    rw [vloop_done _ _ _ (by simp [repr_length]), repr_take_fm, repr_drop_fm]
    simp [spec, ofSpec, filter_live_replicate]
  | cons t rest ih =>
    intro outs d calls k
    have hlt : outs.length + d < (repr outs d (t :: rest) : List (Slot T U)).length := by
      rw [repr_length]; simp
    rw [List.length_cons, Nat.add_right_comm, vloop, spec]
    simp only [hlt, if_true, repr_get_ft, repr_set_ft, getPrev_repr, writePrev_repr]
    -- the converter may have written the previous output: same regions, `outs` with its last element replaced
    cases conv calls.length t outs.getLast? with
    | converted u p' =>
      simp only
      rw [← setLast_length outs p', repr_get_fm, repr_set_fm]
      simpa [Nat.add_right_comm] using ih (setLast outs p' ++ [u]) d (calls ++ [(t, outs.getLast?)]) k
    | abandoned p' =>
      simp only
      rw [← setLast_length outs p']
      exact ih (setLast outs p') (d + 1) (calls ++ [(t, outs.getLast?)]) k
    | err _ p' | panic _ p' =>
      simp only
      rw [← setLast_length outs p']
      exact cleanup_repr _ _ _ _ _

theorem tryConvert_eq (layT layU : Nat × Nat) (conv : Nat → T → Option U → COut U E P) (input : List T) :
    tryConvert layT layU conv input =
      if layT.1 ≠ layU.1 ∨ layT.2 ≠ layU.2 then .refused (input.map .inp) [] else ofSpec (spec conv input [] []) := by
  rw [← vloop_refines conv input [] 0 [] 0]
  rfl

theorem tryConvert_refines (lay : Nat × Nat) (conv : Nat → T → Option U → COut U E P) (input : List T) :
    tryConvert lay lay conv input = ofSpec (spec conv input [] []) := by
  rw [tryConvert_eq, if_neg (by simp)]

theorem ofSpec_ne_refused (s : SpecOut T U E P) (d : List (Slot T U)) (c : List (T × Option U)) :
    ofSpec s ≠ .refused d c := by
  cases s <;> exact nofun

theorem tryConvert_refused_iff (layT layU : Nat × Nat) (conv : Nat → T → Option U → COut U E P) (input : List T) :
    (∃ d c, tryConvert layT layU conv input = .refused d c) ↔ (layT.1 ≠ layU.1 ∨ layT.2 ≠ layU.2) := by
  rw [tryConvert_eq]
  by_cases h : layT.1 ≠ layU.1 ∨ layT.2 ≠ layU.2
  · rw [if_pos h]
    exact ⟨fun _ => h, fun _ => ⟨_, _, rfl⟩⟩
  · rw [if_neg h]
    exact ⟨fun ⟨d, c, hd⟩ => absurd hd (ofSpec_ne_refused _ d c), fun h' => absurd h' h⟩

end Truc.Vec
