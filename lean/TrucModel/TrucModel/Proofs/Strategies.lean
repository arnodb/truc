import TrucModel.Proofs.SimpleStep
/-
  Every shipped strategy satisfies `CloseOk` (the four native ones, which never panic) or `CloseFrame` (the generic ones).
-/
namespace Truc

theorem runStrategy_ok {st : Strategy} (hn : st.isNative = true) {defs : Defs} {data add rm : List Nat}
    (hl : LInv defs data) (hf : Fresh defs (removeData data rm) add) :
    ∃ defs' l', runStrategy st defs data add rm = some (defs', l') ∧ CloseOk defs (removeData data rm) add defs' l' := by
  have hany : add.any (fun d => decide (al defs d = 0)) = false :=
    List.any_eq_false.2 fun a ha => by rw [decide_eq_true_eq]; exact Nat.ne_of_gt (hf.alignPos a ha)
  unfold runStrategy
  rw [hany, Bool.and_false, if_neg Bool.false_ne_true]
  match st, hn with
  | .simple, _ => exact simple_ok hl hf
  | .basic, _ =>
    exact basicLoop_ok add defs (removeData data rm) 0 0 (hl.removeData rm) hf ⟨Nat.zero_le _, List.forall_mem_nil _⟩
  | .append, _ => exact ⟨_, _, rfl, pushAll_ok add defs _ (hl.removeData rm) hf⟩
  | .appendRev, _ =>
    exact ⟨_, _, rfl, (pushAll_ok add.reverse defs _ (hl.removeData rm) hf.reverse).of_perm (List.reverse_perm add)⟩

theorem runStrategy_generic {st : Strategy} (hn : st.isNative = false) (defs : Defs) (data add rm : List Nat) :
    ∃ l', runStrategy st defs data add rm = some (defs, l') ∧ CloseFrame defs (removeData data rm) add defs l' := by
  unfold runStrategy
  rw [hn, Bool.false_and, if_neg Bool.false_ne_true]
  match st, hn with
  | .gAppend, _ => exact ⟨_, rfl, ⟨List.Perm.refl _, rfl, fun _ _ => rfl, fun _ => sameShape_refl _⟩⟩
  | .gAppendRev, _ =>
    exact ⟨_, rfl, ⟨List.Perm.append_left _ (List.reverse_perm add), rfl, fun _ _ => rfl, fun _ => sameShape_refl _⟩⟩

end Truc
