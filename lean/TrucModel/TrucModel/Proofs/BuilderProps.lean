import TrucModel.Proofs.Strategies
/-
  What holds of every reachable builder state: the layout invariant of every variant (`BInv`; every
  valid request keeps it and no native close panics), stability of closed variants (`Stable`), unique
  names (`NInv`).  `foldl_step_induction` is the induction over valid histories all of them go through.
-/
namespace Truc

/-- the shapes the properties quantify over: positive alignment; the shipped native strategies -/
def Req.valid : Req → Prop
  | .add i => 0 < i.align
  | .remove _ => True
  | .close st => st.isNative = true

instance (r : Req) : Decidable r.valid := by
  cases r <;> unfold Req.valid <;> infer_instance

/-- every closed variant satisfies the layout invariant; the pending additions are known, distinct, in no variant
    yet (ids are never reused), and every datum has a positive alignment -/
structure BInv (s : BState) : Prop where
  vinv     : ∀ v ∈ s.variants, LInv s.defs v
  addRange : ∀ a ∈ s.toAdd, a < s.defs.length
  addFresh : ∀ a ∈ s.toAdd, ∀ v ∈ s.variants, a ∉ v
  addNodup : s.toAdd.Nodup
  alignPos : ∀ id, id < s.defs.length → 0 < al s.defs id

theorem BInv.init : BInv BState.init :=
  ⟨List.forall_mem_nil _, List.forall_mem_nil _, List.forall_mem_nil _, .nil, fun _ h => absurd h (Nat.not_lt_zero _)⟩

theorem BInv.addDatum {s : BState} (h : BInv s) (i : Info) (hpos : 0 < i.align) : BInv (s.addDatum i).1 := by
  rcases addDatum_cases s i with ⟨_, he⟩ | ⟨_, he⟩ <;> rw [he]
  · exact h
  · have hlen : (s.defs ++ [i]).length = s.defs.length + 1 := List.length_append
    refine ⟨fun v hv => (h.vinv v hv).append_defs [i], ?_, ?_, ?_, fun id hid => ?_⟩
    · rw [List.forall_mem_append, List.forall_mem_singleton, hlen]
      exact ⟨fun a ha => Nat.lt_succ_of_lt (h.addRange a ha), Nat.lt_succ_self _⟩
    · rw [List.forall_mem_append, List.forall_mem_singleton]
      -- the new id is not yet an index of the collection, the data of a variant are
      exact ⟨h.addFresh, fun v hv hin => Nat.lt_irrefl _ ((h.vinv v hv).inRange _ hin)⟩
    · exact (List.perm_append_singleton _ _).nodup_iff.2
        (List.nodup_cons.2 ⟨fun ha => Nat.lt_irrefl _ (h.addRange _ ha), h.addNodup⟩)
    · rcases Nat.lt_succ_iff_lt_or_eq.1 (hlen ▸ hid) with hlt | rfl
      · unfold al; rw [info_append_left _ _ hlt]; exact h.alignPos id hlt
      · unfold al; rw [info_append_self]; exact hpos

theorem BInv.with_toRemove {s : BState} (h : BInv s) (rm : List Nat) : BInv { s with toRemove := rm } :=
  ⟨h.vinv, h.addRange, h.addFresh, h.addNodup, h.alignPos⟩

theorem BInv.removeDatum {s : BState} (h : BInv s) (id : Nat) : BInv (s.removeDatum id).1 := by
  rcases removeDatum_cases s id with ⟨⟨_, he⟩, _⟩ | ⟨_, _, he⟩ | ⟨_, _, he⟩ <;> rw [he]
  · exact h
  · exact h.with_toRemove _
  · exact ⟨h.vinv, fun a ha => h.addRange a (List.mem_of_mem_erase ha),
      fun a ha => h.addFresh a (List.mem_of_mem_erase ha), h.addNodup.erase id, h.alignPos⟩

theorem BInv.notin_last {s : BState} (h : BInv s) {a : Nat} (ha : a ∈ s.toAdd) :
    a ∉ (s.variants.getLast?).getD [] := by
  intro hin
  rcases getLast?_getD_mem_or_nil s.variants with hm | hnil
  · exact h.addFresh a ha _ hm hin
  · rw [hnil] at hin; cases hin

theorem BInv.fresh {s : BState} (h : BInv s) :
    Fresh s.defs (removeData ((s.variants.getLast?).getD []) s.toRemove) s.toAdd :=
  ⟨fun _ ha hin => h.notin_last ha (mem_removeData.1 hin).1, h.addRange, h.addNodup,
    fun a ha => h.alignPos a (h.addRange a ha)⟩

theorem BInv.lastInv {s : BState} (h : BInv s) : LInv s.defs ((s.variants.getLast?).getD []) := by
  rcases getLast?_getD_mem_or_nil s.variants with hm | hnil
  · exact h.vinv _ hm
  · rw [hnil]; exact LInv.nil _

theorem BInv.close_spec {s : BState} (h : BInv s) {st : Strategy} (hn : st.isNative = true)
    (hp : s.hasPendingChanges = true) :
    ∃ defs' l', s.close st = some ({ defs := defs', variants := s.variants ++ [l'], toAdd := [], toRemove := [] },
        s.variants.length) ∧
      CloseOk s.defs (removeData ((s.variants.getLast?).getD []) s.toRemove) s.toAdd defs' l' := by
  obtain ⟨defs', l', hrun, hok⟩ := runStrategy_ok hn h.lastInv h.fresh
  exact ⟨defs', l', by rw [close_of_pending st hp, hrun]; rfl, hok⟩

theorem close_generic {s : BState} {st : Strategy} (hn : st.isNative = false) (hp : s.hasPendingChanges = true) :
    ∃ l', s.close st = some ({ defs := s.defs, variants := s.variants ++ [l'], toAdd := [], toRemove := [] },
        s.variants.length) ∧
      CloseFrame s.defs (removeData ((s.variants.getLast?).getD []) s.toRemove) s.toAdd s.defs l' := by
  obtain ⟨l', hrun, hfr⟩ := runStrategy_generic hn s.defs ((s.variants.getLast?).getD []) s.toAdd s.toRemove
  exact ⟨l', by rw [close_of_pending st hp, hrun]; rfl, hfr⟩

/-- a close re-places only pending additions, which no closed variant lists -/
theorem BInv.closed_untouched {s : BState} (h : BInv s) {base : List Nat} {defs' : Defs} {l' : List Nat}
    (hfr : CloseFrame s.defs base s.toAdd defs' l') : ∀ v ∈ s.variants, ∀ d ∈ v, info defs' d = info s.defs d :=
  fun v hv d hd => hfr.frame d fun hin => h.addFresh d hin v hv hd

theorem BInv.of_closeOk {s : BState} (h : BInv s) {base : List Nat} {defs' : Defs} {l' : List Nat}
    (hok : CloseOk s.defs base s.toAdd defs' l') :
    BInv { defs := defs', variants := s.variants ++ [l'], toAdd := [], toRemove := [] } := by
  refine ⟨fun v hv => ?_, List.forall_mem_nil _, List.forall_mem_nil _, .nil, fun id hid => ?_⟩
  · rcases List.mem_append.1 hv with hv | hv
    · exact (h.vinv v hv).congr (Nat.le_of_eq hok.len.symm) (h.closed_untouched hok.toCloseFrame v hv)
    · obtain rfl := List.mem_singleton.1 hv
      exact hok.inv
  · have := h.alignPos id (hok.len ▸ hid)
    unfold al at this ⊢
    rw [(hok.shape id).align]; exact this

/-- a close with changes pending, whichever strategy: native ones keep `BInv`, generic ones only the frame -/
theorem close_any {s : BState} {st : Strategy} (hb : st.isNative = true → BInv s) (hp : s.hasPendingChanges = true) :
    ∃ defs' l', s.close st = some ({ defs := defs', variants := s.variants ++ [l'], toAdd := [], toRemove := [] }, s.variants.length) ∧
      CloseFrame s.defs (removeData ((s.variants.getLast?).getD []) s.toRemove) s.toAdd defs' l' ∧
      (st.isNative = true → BInv { defs := defs', variants := s.variants ++ [l'], toAdd := [], toRemove := [] }) := by
  cases hn : st.isNative with
  | true =>
    obtain ⟨defs', l', hc, hok⟩ := (hb hn).close_spec hn hp
    exact ⟨defs', l', hc, hok.toCloseFrame, fun _ => (hb hn).of_closeOk hok⟩
  | false =>
    obtain ⟨l', hc, hfr⟩ := close_generic hn hp
    exact ⟨s.defs, l', hc, hfr, nofun⟩

/-- what a later request may do to an already closed variant: nothing; the collection only grows -/
structure Stable (s s' : BState) : Prop where
  variants : ∀ v ∈ s.variants, v ∈ s'.variants
  infos    : ∀ v ∈ s.variants, ∀ d ∈ v, info s'.defs d = info s.defs d
  grows    : s.defs.length ≤ s'.defs.length

theorem Stable.of_eq {s s' : BState} (hd : s'.defs = s.defs) (hv : s'.variants = s.variants) : Stable s s' :=
  ⟨fun _ h => hv ▸ h, fun _ _ _ _ => hd ▸ rfl, Nat.le_of_eq (congrArg List.length hd.symm)⟩

theorem Stable.refl (s : BState) : Stable s s := .of_eq rfl rfl

theorem Stable.trans {a b c : BState} (h1 : Stable a b) (h2 : Stable b c) : Stable a c :=
  ⟨fun v hv => h2.variants v (h1.variants v hv),
    fun v hv d hd => (h2.infos v (h1.variants v hv) d hd).trans (h1.infos v hv d hd), Nat.le_trans h1.grows h2.grows⟩

theorem BInv.close {s : BState} (h : BInv s) {st : Strategy} (hn : st.isNative = true) :
    ∃ s' vid, s.close st = some (s', vid) ∧ BInv s' ∧ Stable s s' := by
  cases hp : s.hasPendingChanges with
  | false => exact ⟨s, _, close_of_not_pending st hp, h, .refl s⟩
  | true =>
    obtain ⟨defs', l', hc, hok⟩ := h.close_spec hn hp
    exact ⟨_, _, hc, h.of_closeOk hok, fun _ hv => List.mem_append_left _ hv, h.closed_untouched hok.toCloseFrame,
      Nat.le_of_eq hok.len.symm⟩

theorem BInv.step {s : BState} (h : BInv s) {r : Req} (hr : r.valid) : BInv (Truc.step s r) ∧ stepPanics s r = false := by
  cases r with
  | add i => exact ⟨step_add s i ▸ h.addDatum _ hr, rfl⟩
  | remove id => exact ⟨step_remove s id ▸ h.removeDatum id, rfl⟩
  | close st =>
    obtain ⟨s', vid, hc, hinv, _⟩ := h.close hr
    rw [step_close hc, stepPanics, hc]
    exact ⟨hinv, rfl⟩

theorem foldl_step_induction {P : BState → Prop} (hstep : ∀ s r, BInv s → P s → r.valid → P (Truc.step s r))
    (reqs : List Req) (s : BState) (hb : BInv s) (hp : P s) (hv : ∀ r ∈ reqs, r.valid) :
    BInv (reqs.foldl Truc.step s) ∧ P (reqs.foldl Truc.step s) :=
  List.foldlRecOn (motive := fun s => BInv s ∧ P s) reqs Truc.step ⟨hb, hp⟩
    fun s h r hr => ⟨(h.1.step (hv r hr)).1, hstep s r h.1 h.2 (hv r hr)⟩

theorem run_append (pre suf : List Req) : run (pre ++ suf) = suf.foldl step (run pre) :=
  List.foldl_append

theorem reachable_BInv (reqs : List Req) (hv : ∀ r ∈ reqs, r.valid) : BInv (run reqs) :=
  (foldl_step_induction (P := fun _ => True) (fun _ _ _ _ _ => trivial) reqs _ BInv.init trivial hv).1

theorem BInv.step_stable {s : BState} (h : BInv s) {r : Req} (hr : r.valid) : Stable s (Truc.step s r) := by
  cases r with
  | add i =>
    rw [step_add]
    rcases addDatum_cases s { i with offset := UNSET } with ⟨_, he⟩ | ⟨_, he⟩ <;> rw [he]
    · exact Stable.refl s
    · exact ⟨fun v hv => hv, fun v hv d hd => info_append_left _ _ ((h.vinv v hv).inRange d hd),
        List.length_append ▸ Nat.le_add_right _ _⟩
  | remove id =>
    rw [step_remove]
    rcases removeDatum_cases s id with ⟨⟨_, he⟩, _⟩ | ⟨_, _, he⟩ | ⟨_, _, he⟩ <;> rw [he] <;> exact .of_eq rfl rfl
  | close st =>
    obtain ⟨s', vid, hc, _, hst⟩ := h.close hr
    rw [step_close hc]
    exact hst

theorem foldl_step_stable (reqs : List Req) (s : BState) (h : BInv s) (hv : ∀ r ∈ reqs, r.valid) :
    Stable s (reqs.foldl Truc.step s) :=
  (foldl_step_induction (P := Stable s) (fun _ _ hb hs hr => hs.trans (hb.step_stable hr)) reqs s h (.refl s) hv).2

def nameOf (defs : Defs) (id : Nat) : String := (info defs id).name

/-- names are unique in every closed variant and in the current (pending) view -/
structure NInv (s : BState) : Prop where
  variants : ∀ v ∈ s.variants, (v.map (nameOf s.defs)).Nodup
  current  : (s.currentData.map (nameOf s.defs)).Nodup
  curRange : ∀ d ∈ s.currentData, d < s.defs.length

theorem NInv.init : NInv BState.init :=
  ⟨List.forall_mem_nil _, .nil, List.forall_mem_nil _⟩

theorem map_nameOf_congr {defs defs' : Defs} {l : List Nat} (h : ∀ d ∈ l, info defs' d = info defs d) :
    l.map (nameOf defs') = l.map (nameOf defs) := by
  apply List.map_congr_left
  intro d hd; unfold nameOf; rw [h d hd]

theorem currentNames_addDatum {s : BState} (i : Info) (hr : ∀ d ∈ s.currentData, d < s.defs.length) :
    ({ s with defs := s.defs ++ [i], toAdd := s.toAdd ++ [s.defs.length] } : BState).currentData.map
        (nameOf (s.defs ++ [i])) = s.currentData.map (nameOf s.defs) ++ [i.name] ∧
    ∀ d ∈ ({ s with defs := s.defs ++ [i], toAdd := s.toAdd ++ [s.defs.length] } : BState).currentData,
      d < (s.defs ++ [i]).length := by
  rw [currentData_addDatum]
  constructor
  · rw [List.map_append, map_nameOf_congr (fun d hd => info_append_left s.defs [i] (hr d hd)), List.map_singleton,
      nameOf, info_append_self]
  · rw [List.forall_mem_append, List.forall_mem_singleton, List.length_append, List.length_singleton]
    exact ⟨fun d hd => Nat.lt_succ_of_lt (hr d hd), Nat.lt_succ_self _⟩

theorem NInv.addDatum {s : BState} (hb : BInv s) (h : NInv s) (i : Info) : NInv (s.addDatum i).1 := by
  rcases addDatum_cases s i with ⟨_, he⟩ | ⟨hnone, he⟩ <;> rw [he]
  · exact h
  · obtain ⟨hnames, hrange⟩ := currentNames_addDatum i h.curRange
    refine ⟨fun v hv => ?_, ?_, hrange⟩
    · rw [map_nameOf_congr (fun d hd => info_append_left s.defs [i] ((hb.vinv v hv).inRange d hd))]
      exact h.variants v hv
    · rw [hnames]
      refine (List.perm_append_singleton _ _).nodup_iff.2 (List.nodup_cons.2 ⟨fun ha => ?_, h.current⟩)
      -- the new name is not among the current ones: that is what `add_datum` has just looked up
      obtain ⟨d, hd, hn⟩ := List.mem_map.1 ha
      exact currentByName_isSome_eq_false.1 hnone d hd (h.curRange d hd) hn

theorem NInv.of_sublist {s s' : BState} (h : NInv s) (hd : s'.defs = s.defs) (hv : s'.variants = s.variants)
    (hs : s'.currentData.Sublist s.currentData) : NInv s' := by
  refine ⟨?_, ?_, ?_⟩
  · rw [hd, hv]; exact h.variants
  · rw [hd]; exact h.current.sublist (hs.map _)
  · rw [hd]; intro d hdm; exact h.curRange d (hs.subset hdm)

theorem NInv.removeDatum {s : BState} (h : NInv s) (id : Nat) : NInv (s.removeDatum id).1 := by
  rcases removeDatum_cases s id with ⟨⟨_, he⟩, _⟩ | ⟨_, _, he⟩ | ⟨_, _, he⟩ <;> rw [he]
  · exact h
  · refine h.of_sublist rfl rfl ?_
    rw [currentData_eq, currentData_eq, removeData_append]
    exact (removeData_sublist _ [id]).append_right _
  · refine h.of_sublist rfl rfl ?_
    rw [currentData_eq, currentData_eq]
    exact List.erase_sublist.append_left _

theorem NInv.of_closeOk {s : BState} (h : NInv s) {defs' : Defs} {l' : List Nat}
    (hok : CloseOk s.defs (removeData ((s.variants.getLast?).getD []) s.toRemove) s.toAdd defs' l') :
    NInv { defs := defs', variants := s.variants ++ [l'], toAdd := [], toRemove := [] } := by
  have hname : nameOf defs' = nameOf s.defs := funext fun d => (hok.shape d).name
  have hcur : ({ defs := defs', variants := s.variants ++ [l'], toAdd := [], toRemove := [] } : BState).currentData
      = l' := by
    simp [currentData_eq, removeData_nil]
  -- the new variant is a permutation of the current view, whose names are distinct
  have hl' : (l'.map (nameOf s.defs)).Nodup := ((currentData_eq s ▸ hok.perm).map _).nodup_iff.2 h.current
  refine ⟨?_, ?_, ?_⟩
  · rw [hname, List.forall_mem_append, List.forall_mem_singleton]; exact ⟨h.variants, hl'⟩
  · rw [hcur, hname]; exact hl'
  · rw [hcur]; exact hok.inv.inRange

theorem NInv.step (s : BState) (r : Req) (hb : BInv s) (h : NInv s) (hr : r.valid) : NInv (Truc.step s r) := by
  cases r with
  | add i => exact step_add s i ▸ h.addDatum hb _
  | remove id => exact step_remove s id ▸ h.removeDatum id
  | close st =>
    cases hp : s.hasPendingChanges with
    | false => rw [step_close (close_of_not_pending st hp)]; exact h
    | true =>
      obtain ⟨defs', l', hc, hok⟩ := hb.close_spec hr hp
      rw [step_close hc]
      exact h.of_closeOk hok

theorem reachable_BInv_NInv (reqs : List Req) (hv : ∀ r ∈ reqs, r.valid) : BInv (run reqs) ∧ NInv (run reqs) :=
  foldl_step_induction NInv.step reqs _ BInv.init NInv.init hv

theorem removeDatum_ok_iff {s : BState} (h : BInv s) (id : Nat) :
    (s.removeDatum id).2 = .ok () ↔ id ∈ s.currentData := by
  rw [currentData_eq, List.mem_append, mem_removeData]
  rcases removeDatum_cases s id with ⟨⟨e, he⟩, hr, ha⟩ | ⟨hv, hr, he⟩ | ⟨_, ha, he⟩ <;> rw [he]
  · refine ⟨nofun, fun hin => ?_⟩
    rcases hin with ⟨hv, hnr⟩ | hin
    · exact absurd (hr hv) hnr
    · exact absurd hin (ha (h.notin_last hin))
  · exact ⟨fun _ => Or.inl ⟨hv, hr⟩, fun _ => rfl⟩
  · exact ⟨fun _ => Or.inr ha, fun _ => rfl⟩

end Truc
