import TrucModel.Model.Builder
/-
  Layout level: `alignUp`, `setOffset`, `removeData`, `insertAt?` (with the list surgery of one replay step).
  Builder level: what each operation, and the dispatcher `step`, does.
-/
namespace Truc

theorem alignUp_dvd (c a : Nat) : a ∣ alignUp c a := by
  unfold alignUp; exact Nat.dvd_mul_left _ _

theorem le_alignUp (c a : Nat) (h : 0 < a) : c ≤ alignUp c a :=
  Nat.le_of_add_le_add_right (Nat.le_of_pred_lt (Nat.lt_div_mul_add (a := c + a - 1) h))

theorem alignUp_lt (c a : Nat) (h : 0 < a) : alignUp c a < c + a :=
  Nat.lt_of_le_of_lt (Nat.div_mul_le_self _ _) (Nat.sub_lt (Nat.add_pos_right c h) Nat.one_pos)

theorem alignUp_of_dvd (c a : Nat) (h : 0 < a) (hd : a ∣ c) : alignUp c a = c := by
  obtain ⟨k, rfl⟩ := hd
  unfold alignUp
  rw [Nat.add_sub_assoc h, Nat.mul_add_div h, Nat.div_eq_of_lt (Nat.sub_lt h Nat.one_pos), Nat.add_zero,
    Nat.mul_comm]

theorem setOffset_length (defs : Defs) (id o : Nat) : (setOffset defs id o).length = defs.length := by
  simp [setOffset]

theorem info_setOffset (defs : Defs) (id o j : Nat) :
    info (setOffset defs id o) j =
      if j = id then { info defs id with offset := (if id < defs.length then o else (info defs id).offset) }
      else info defs j := by
  unfold info setOffset
  by_cases hj : j = id
  · subst hj
    rw [if_pos rfl, List.getElem?_modify_eq]
    by_cases hl : j < defs.length
    · rw [if_pos hl, List.getElem?_eq_getElem hl]; rfl
    · rw [if_neg hl, List.getElem?_eq_none (Nat.le_of_not_lt hl)]; rfl
  · rw [if_neg hj, List.getElem?_modify_ne _ _ (Ne.symm hj)]

theorem info_setOffset_ne (defs : Defs) (id o j : Nat) (h : j ≠ id) : info (setOffset defs id o) j = info defs j := by
  rw [info_setOffset, if_neg h]

/-- equal in everything but the offset -/
def sameShape (a b : Info) : Prop :=
  a.name = b.name ∧ a.ty = b.ty ∧ a.size = b.size ∧ a.align = b.align ∧ a.uninit = b.uninit

theorem sameShape.name {a b : Info} (h : sameShape a b) : a.name = b.name := h.1

theorem sameShape.size {a b : Info} (h : sameShape a b) : a.size = b.size := h.2.2.1

theorem sameShape.align {a b : Info} (h : sameShape a b) : a.align = b.align := h.2.2.2.1

theorem sameShape_refl (a : Info) : sameShape a a := ⟨rfl, rfl, rfl, rfl, rfl⟩

theorem sameShape_trans {a b c : Info} (h1 : sameShape a b) (h2 : sameShape b c) : sameShape a c := by
  obtain ⟨a1, a2, a3, a4, a5⟩ := h1
  obtain ⟨b1, b2, b3, b4, b5⟩ := h2
  exact ⟨a1.trans b1, a2.trans b2, a3.trans b3, a4.trans b4, a5.trans b5⟩

theorem sameShape_setOffset (defs : Defs) (id o j : Nat) : sameShape (info (setOffset defs id o) j) (info defs j) := by
  by_cases hj : j = id
  · rw [info_setOffset, if_pos hj, hj]; exact sameShape_refl _
  · rw [info_setOffset_ne defs id o j hj]; exact sameShape_refl _

theorem sz_setOffset (defs : Defs) (id o j : Nat) : sz (setOffset defs id o) j = sz defs j :=
  (sameShape_setOffset defs id o j).size

theorem al_setOffset (defs : Defs) (id o j : Nat) : al (setOffset defs id o) j = al defs j :=
  (sameShape_setOffset defs id o j).align

theorem off_setOffset_ne (defs : Defs) (id o j : Nat) (h : j ≠ id) : off (setOffset defs id o) j = off defs j :=
  congrArg Info.offset (info_setOffset_ne defs id o j h)

theorem off_setOffset_self (defs : Defs) (id o : Nat) (h : id < defs.length) : off (setOffset defs id o) id = o := by
  unfold off; rw [info_setOffset, if_pos rfl, if_pos h]

theorem stop_setOffset_ne (defs : Defs) (id o j : Nat) (h : j ≠ id) : stop (setOffset defs id o) j = stop defs j := by
  unfold stop; rw [off_setOffset_ne _ _ _ _ h, sz_setOffset]

theorem stop_setOffset_self (defs : Defs) (id o : Nat) (h : id < defs.length) :
    stop (setOffset defs id o) id = o + sz defs id := by
  unfold stop; rw [off_setOffset_self _ _ _ h, sz_setOffset]

theorem mem_removeData {l rm : List Nat} {x : Nat} : x ∈ removeData l rm ↔ x ∈ l ∧ x ∉ rm := by
  simp [removeData]

theorem removeData_sublist (l rm : List Nat) : (removeData l rm).Sublist l := by
  unfold removeData; exact List.filter_sublist

theorem removeData_append (l rm rm' : List Nat) : removeData l (rm ++ rm') = removeData (removeData l rm) rm' := by
  unfold removeData
  rw [List.filter_filter]
  exact List.filter_congr fun d _ => by rw [List.contains_append, Bool.not_or, Bool.and_comm]

theorem removeData_nil (l : List Nat) : removeData l [] = l :=
  List.filter_eq_self.2 fun _ _ => rfl

theorem removeData_map {f : Nat → Nat} {l rm : List Nat} (hinj : ∀ a ∈ l, ∀ b ∈ rm, f a = f b → a = b) :
    removeData (l.map f) (rm.map f) = (removeData l rm).map f := by
  unfold removeData
  rw [List.filter_map]
  congr 1
  apply List.filter_congr
  intro a ha
  simp only [Function.comp, List.contains_eq_mem, List.mem_map]
  congr 1
  rw [decide_eq_decide]
  exact ⟨fun ⟨b, hb, e⟩ => hinj a ha b hb e.symm ▸ hb, fun h => ⟨a, h, rfl⟩⟩

/-- the list operations of one replay step: drop what `v` lacks, add what `v` brings -/
theorem removeData_append_perm {old v : List Nat} (ho : old.Nodup) (hv : v.Nodup) :
    (removeData old (old.filter (fun d => !v.contains d)) ++ v.filter (fun d => !old.contains d)).Perm v := by
  have h1 : removeData old (old.filter (fun d => !v.contains d)) = old.filter (fun d => v.contains d) := by
    unfold removeData
    apply List.filter_congr
    intro d hd
    simp [List.mem_filter, hd]
  have h2 : (old.filter (fun d => v.contains d)).Perm (v.filter (fun d => old.contains d)) :=
    (List.perm_ext_iff_of_nodup (ho.filter _) (hv.filter _)).2 (by simp [List.mem_filter, and_comm])
  rw [h1]
  exact (h2.append_right _).trans (List.filter_append_perm _ v)

theorem insertAt?_eq_some {l : List Nat} {i x : Nat} {l' : List Nat} (h : insertAt? l i x = some l') :
    i ≤ l.length ∧ l' = l.take i ++ x :: l.drop i :=
  let ⟨hle, he⟩ := Option.ite_none_right_eq_some.1 h
  ⟨hle, (Option.some.inj he).symm⟩

theorem insertAt?_of_le {l : List Nat} {i x : Nat} (h : i ≤ l.length) :
    insertAt? l i x = some (l.take i ++ x :: l.drop i) := by
  simp [insertAt?, h]

theorem perm_insert (l : List Nat) (i x : Nat) : (l.take i ++ x :: l.drop i).Perm (x :: l) := by
  have : (l.take i ++ x :: l.drop i).Perm (x :: (l.take i ++ l.drop i)) := List.perm_middle
  rwa [List.take_append_drop] at this

theorem mem_insert {l : List Nat} {i x y : Nat} : y ∈ l.take i ++ x :: l.drop i ↔ y = x ∨ y ∈ l := by
  rw [(perm_insert l i x).mem_iff, List.mem_cons]

theorem getElem?_eq_some_info {defs : Defs} {id : Nat} (h : id < defs.length) : defs[id]? = some (info defs id) := by
  unfold info; rw [List.getElem?_eq_getElem h]; rfl

theorem info_append_left (defs ext : Defs) {d : Nat} (h : d < defs.length) : info (defs ++ ext) d = info defs d := by
  unfold info; rw [List.getElem?_append_left h]

theorem info_append_self (defs : Defs) (i : Info) : info (defs ++ [i]) defs.length = i := by
  unfold info; rw [List.getElem?_concat_length]; rfl

theorem currentData_eq (s : BState) :
    s.currentData = removeData ((s.variants.getLast?).getD []) s.toRemove ++ s.toAdd := by
  unfold BState.currentData removeData
  cases s.variants.getLast? <;> rfl

theorem currentByName_isSome_eq_false {s : BState} {n : String} :
    (s.currentByName n).isSome = false ↔ ∀ d ∈ s.currentData, d < s.defs.length → (info s.defs d).name ≠ n := by
  unfold BState.currentByName
  rw [Option.isSome_eq_false_iff, Option.isNone_iff_eq_none, List.find?_eq_none]
  simp only [List.mem_filter, decide_eq_true_eq, and_imp]

theorem addDatum_cases (s : BState) (i : Info) :
    ((s.currentByName i.name).isSome = true ∧ s.addDatum i = (s, .error .dupName)) ∨
    ((s.currentByName i.name).isSome = false ∧
      s.addDatum i = ({ s with defs := s.defs ++ [i], toAdd := s.toAdd ++ [s.defs.length] }, .ok s.defs.length)) := by
  unfold BState.addDatum
  cases (s.currentByName i.name).isSome
  · exact .inr ⟨rfl, rfl⟩
  · exact .inl ⟨rfl, rfl⟩

theorem addDatum_eq (s : BState) (i : Info) (h : (s.currentByName i.name).isSome = false) :
    s.addDatum i = ({ s with defs := s.defs ++ [i], toAdd := s.toAdd ++ [s.defs.length] }, .ok s.defs.length) :=
  (addDatum_cases s i).elim (fun h' => absurd (h'.1.symm.trans h) nofun) (·.2)

theorem currentData_addDatum (s : BState) (i : Info) :
    ({ s with defs := s.defs ++ [i], toAdd := s.toAdd ++ [s.defs.length] } : BState).currentData =
      s.currentData ++ [s.defs.length] := by
  simp only [currentData_eq, List.append_assoc]

theorem removeDatum_cases (s : BState) (id : Nat) :
    ((∃ e, s.removeDatum id = (s, .error e)) ∧
      (id ∈ (s.variants.getLast?).getD [] → id ∈ s.toRemove) ∧
      (id ∉ (s.variants.getLast?).getD [] → id ∉ s.toAdd)) ∨
    (id ∈ (s.variants.getLast?).getD [] ∧ id ∉ s.toRemove ∧
      s.removeDatum id = ({ s with toRemove := s.toRemove ++ [id] }, .ok ())) ∨
    (id ∉ (s.variants.getLast?).getD [] ∧ id ∈ s.toAdd ∧
      s.removeDatum id = ({ s with toAdd := s.toAdd.erase id }, .ok ())) := by
  have yes : ∀ {l : List Nat}, id ∈ l → l.contains id = true := List.contains_iff_mem.2
  have no : ∀ {l : List Nat}, id ∉ l → ¬l.contains id = true := mt List.contains_iff_mem.1
  unfold BState.removeDatum
  cases s.variants.getLast? with
  | none =>
    by_cases ha : id ∈ s.toAdd
    · exact .inr (.inr ⟨List.not_mem_nil, ha, if_pos (yes ha)⟩)
    · exact .inl ⟨⟨_, if_neg (no ha)⟩, fun h => (nomatch h), fun _ => ha⟩
  | some v =>
    by_cases hv : id ∈ v
    · by_cases hr : id ∈ s.toRemove
      · exact .inl ⟨⟨_, (if_pos (yes hv)).trans (if_pos (yes hr))⟩, fun _ => hr, fun h => absurd hv h⟩
      · exact .inr (.inl ⟨hv, hr, (if_pos (yes hv)).trans (if_neg (no hr))⟩)
    · by_cases ha : id ∈ s.toAdd
      · exact .inr (.inr ⟨hv, ha, (if_neg (no hv)).trans (if_pos (yes ha))⟩)
      · exact .inl ⟨⟨_, (if_neg (no hv)).trans (if_neg (no ha))⟩, fun h => absurd h hv, fun _ => ha⟩

theorem removeDatum_eq {s : BState} {id : Nat} (hin : id ∈ (s.variants.getLast?).getD []) (hnr : id ∉ s.toRemove) :
    s.removeDatum id = ({ s with toRemove := s.toRemove ++ [id] }, .ok ()) := by
  rcases removeDatum_cases s id with ⟨_, hr, _⟩ | ⟨_, _, he⟩ | ⟨hn, _⟩
  · exact absurd (hr hin) hnr
  · exact he
  · exact absurd hin hn

theorem removeDatum_mapDefs (f : Defs → Defs) (s : BState) (id : Nat) :
    ({ s with defs := f s.defs } : BState).removeDatum id =
      ({ (s.removeDatum id).1 with defs := f (s.removeDatum id).1.defs }, (s.removeDatum id).2) := by
  unfold BState.removeDatum
  cases s.variants.getLast? with
  | none => dsimp only; cases s.toAdd.contains id <;> rfl
  | some v =>
    dsimp only
    cases v.contains id
    · cases s.toAdd.contains id <;> rfl
    · cases s.toRemove.contains id <;> rfl

theorem hasPendingChanges_iff (s : BState) :
    s.hasPendingChanges = true ↔ s.variants = [] ∨ s.toRemove ≠ [] ∨ s.toAdd ≠ [] := by
  simp [BState.hasPendingChanges, or_assoc]

theorem close_of_not_pending {s : BState} (st : Strategy) (hp : s.hasPendingChanges = false) :
    s.close st = some (s, s.variants.length - 1) := by
  unfold BState.close
  rw [hp]
  rfl

theorem close_of_pending {s : BState} (st : Strategy) (hp : s.hasPendingChanges = true) :
    s.close st = (runStrategy st s.defs ((s.variants.getLast?).getD []) s.toAdd s.toRemove).map fun p =>
      ({ defs := p.1, variants := s.variants ++ [p.2], toAdd := [], toRemove := [] }, s.variants.length) := by
  unfold BState.close
  rw [hp]
  dsimp only
  cases runStrategy st s.defs ((s.variants.getLast?).getD []) s.toAdd s.toRemove <;> rfl

theorem step_add (s : BState) (i : Info) : step s (.add i) = (s.addDatum { i with offset := UNSET }).1 := rfl

theorem step_remove (s : BState) (id : Nat) : step s (.remove id) = (s.removeDatum id).1 := rfl

theorem step_close {s s' : BState} {st : Strategy} {vid : Nat} (h : s.close st = some (s', vid)) :
    step s (.close st) = s' := by
  rw [step, h]

end Truc
