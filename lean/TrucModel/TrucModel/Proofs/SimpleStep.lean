import TrucModel.Proofs.Simple
import TrucModel.Proofs.SizeOrder
/-
  `simple`, the rest: the candidate placements; one iteration preserves `LInv` and `GInv`; hence the loop, and the
  strategy, satisfy `CloseOk`.
-/
namespace Truc

/-- all that the proofs need of a candidate placement: it lies inside the gap it names, at an aligned start;
    which candidate `select_best` prefers never matters -/
structure FitOk (gaps : List Gap) (dsz dal : Nat) (f : Fitted) : Prop where
  gap     : ∃ g, gaps[f.gi]? = some g ∧ g.start + f.before = f.dstart ∧ f.dend + f.after = g.stop
  dend    : f.dend = f.dstart + dsz
  aligned : dal ∣ f.dstart

theorem collectFits_ok {dsz dal : Nat} (hpos : 0 < dal) (gs : List Gap) : ∀ (pre : List Gap),
    ∀ f ∈ collectFits dsz dal gs pre.length, FitOk (pre ++ gs) dsz dal f := by
  induction gs with
  | nil => intro _; exact List.forall_mem_nil _
  | cons g gs ih =>
    intro pre
    have ih' := ih (pre ++ [g])
    rw [List.length_append, List.length_singleton, ← List.append_cons] at ih'
    unfold collectFits
    by_cases hsmall : g.stop - g.start < dsz
    · rw [if_pos hsmall]; exact ih'
    · rw [if_neg hsmall]
      by_cases hge : g.stop ≥ alignUp g.start dal + dsz
      · rw [if_pos hge]
        intro f hf
        -- the `break` on an exact fit only cuts the list of candidates short
        rcases List.mem_cons.1 (mem_cons_of_mem_ite_singleton hf) with rfl | hf
        · have hg : (pre ++ g :: gs)[pre.length]? = some g := by
            rw [List.getElem?_append_right (Nat.le_refl _), Nat.sub_self]; rfl
          exact ⟨⟨g, hg, Nat.add_sub_cancel' (le_alignUp _ _ hpos), Nat.add_sub_cancel' hge⟩, rfl, alignUp_dvd _ _⟩
        · exact ih' f hf
      · rw [if_neg hge]; exact ih'

theorem startOrEnd_cases (f : Fitted) (dal : Nat) :
    startOrEnd f dal = f ∨ ∃ delta, delta ≤ f.after ∧ dal ∣ delta ∧ startOrEnd f dal =
      ⟨.endOfGap, f.gi, f.before + delta, f.after - delta, f.dstart + delta, f.dend + delta⟩ := by
  fun_cases startOrEnd f dal with
  | case1 => exact .inl rfl
  | case2 => exact .inr ⟨_, Nat.div_mul_le_self _ _, Nat.dvd_mul_left _ _, rfl⟩
  | case3 => exact .inl rfl

theorem startOrEnd_ok {gaps : List Gap} {dsz dal : Nat} {f : Fitted} (h : FitOk gaps dsz dal f) :
    FitOk gaps dsz dal (startOrEnd f dal) := by
  rcases startOrEnd_cases f dal with he | ⟨delta, hle, hdvd, he⟩ <;> rw [he]
  · exact h
  · obtain ⟨⟨g, hg, h1, h2⟩, hd, ha⟩ := h
    refine ⟨⟨g, hg, ?_, ?_⟩, ?_, Nat.dvd_add ha hdvd⟩
    · show g.start + (f.before + delta) = f.dstart + delta
      rw [← Nat.add_assoc, h1]
    · show f.dend + delta + (f.after - delta) = g.stop
      rw [Nat.add_assoc, Nat.add_sub_cancel' hle, h2]
    · show f.dend + delta = f.dstart + delta + dsz
      rw [hd, Nat.add_right_comm]

theorem minGroup_subset (fs : List Fitted) : ∀ f ∈ minGroup fs, f ∈ fs := by
  fun_cases minGroup fs with
  | case1 => exact List.forall_mem_nil _
  | case2 => exact List.filter_sublist.subset

/-- every candidate the selection fold can return is one of `fs`, possibly moved to the end of its gap -/
theorem chooseFit_ok {gaps : List Gap} {dsz dal : Nat} {fs : List Fitted} (h : ∀ f ∈ fs, FitOk gaps dsz dal f)
    {f : Fitted} (hf : chooseFit dal fs = some f) : FitOk gaps dsz dal f := by
  cases fs with
  | nil => cases hf
  | cons f0 rest =>
    obtain rfl := Option.some.inj hf
    refine List.foldlRecOn rest _ (startOrEnd_ok (h f0 List.mem_cons_self)) (fun prev hprev c hc => ?_)
    dsimp only
    split
    · exact hprev
    · exact startOrEnd_ok (h c (List.mem_cons_of_mem _ hc))

theorem simpleStep_ok {defs : Defs} {l : List Nat} {gaps : List Gap} {id : Nat} (hl : LInv defs l)
    (hg : GInv defs l gaps) (hid : id ∉ l) (hlt : id < defs.length) (hpos : 0 < al defs id) :
    ∃ o l' gaps', simpleStep ⟨defs, l, gaps⟩ id = some ⟨setOffset defs id o, l', gaps'⟩ ∧
      LInv (setOffset defs id o) l' ∧ GInv (setOffset defs id o) l' gaps' ∧ l'.Perm (id :: l) := by
  unfold simpleStep
  dsimp only
  cases hch : chooseFit (al defs id) (minGroup (collectFits (sz defs id) (al defs id) gaps 0)) with
  | some f =>
    obtain ⟨⟨g, hgi, hstart, hstop⟩, hdend, hal⟩ : FitOk gaps (sz defs id) (al defs id) f :=
      chooseFit_ok (fun f' hf' => collectFits_ok hpos gaps [] f'
        (minGroup_subset _ f' hf')) hch
    have hgok := hg.ok hl.sorted hgi
    simp only [hgi, insertAt?_of_le (Nat.le_of_lt hgok.idx)]
    refine ⟨f.dstart, _, _, rfl, ?_, hg.place hgi hid hlt hstart hdend hstop, perm_insert l g.idx id⟩
    have hhi : f.dstart + sz defs id ≤ g.stop := by rw [← hdend, ← hstop]; exact Nat.le_add_right _ _
    exact hl.insert hid hlt (fun e he => Nat.le_trans (hgok.before e he) (hstart ▸ Nat.le_add_right _ _))
      (fun e he => Nat.le_trans hhi (hgok.after e he)) hal
  | none =>
    dsimp only [pushDatum]
    rw [List.length_append, List.length_singleton, Nat.add_sub_cancel]
    exact ⟨_, _, _, rfl, hl.push hid hlt (le_alignUp _ _ hpos) (alignUp_dvd _ _), hg.push hid hlt,
      List.perm_append_singleton id l⟩

theorem simpleLoop_ok (ids : List Nat) : ∀ (defs : Defs) (l : List Nat) (gaps : List Gap), LInv defs l →
    GInv defs l gaps → Fresh defs l ids →
    ∃ s', simpleLoop ⟨defs, l, gaps⟩ ids = some s' ∧ CloseOk defs l ids s'.defs s'.data := by
  induction ids with
  | nil => intro defs l gaps hl _ _; exact ⟨_, rfl, .nil hl⟩
  | cons id rest ih =>
    intro defs l gaps hl hg hf
    obtain ⟨hid, hlt, hpos⟩ := hf.head
    obtain ⟨o, l1, gaps1, hstep, hl1, hg1, hperm⟩ := simpleStep_ok hl hg hid hlt hpos
    obtain ⟨s', hloop, hok⟩ := ih _ l1 gaps1 hl1 hg1 (hf.tail o hperm)
    refine ⟨s', ?_, .cons hperm hok⟩
    unfold simpleLoop; rw [hstep]; exact hloop

theorem simple_ok {defs : Defs} {data add rm : List Nat} (hl : LInv defs data)
    (hf : Fresh defs (removeData data rm) add) :
    ∃ defs' l', simple defs data add rm = some (defs', l') ∧ CloseOk defs (removeData data rm) add defs' l' := by
  have hp := sortBySizeDesc_perm defs add
  obtain ⟨s', hloop, hok⟩ := simpleLoop_ok (sortBySizeDesc defs add) defs (removeData data rm) _ (hl.removeData rm)
    (GInv.init _ _) (hf.of_perm hp)
  refine ⟨s'.defs, s'.data, ?_, hok.of_perm hp⟩
  unfold simple
  simp only [hloop]

end Truc
