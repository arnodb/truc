import TrucModel.Proofs.RecInv
/-
  The generated functions, run on the abstract machine, do what the abstract record says:
  constructors, accessors, unpack, drop, the four conversion forms.  (Refinement layer for C04–C07.)
-/
namespace Truc.Mach
open Truc.Gen

/-- the record a constructor builds from the values `ws` -/
def built (cap : Nat) (ws : List (D × Val)) : Buf := ⟨cap, ws.foldl stored []⟩

theorem storeAll_empty (dr : String → Bool) {cap : Nat} {ds : List D} (hwf : WFData cap ds) (vals : List Val) :
    storeAll dr ⟨cap, []⟩ (ds.zip vals) = .ok (built cap (ds.zip vals)) :=
  storeAll_eq dr (ds.zip vals) ⟨cap, []⟩
    (fun w hw => ⟨hwf.inCap w.1 (List.of_mem_zip hw).1, fun _ he => nomatch he⟩) (zip_pairwise_apart hwf.apart)

theorem find_built {cap : Nat} {ds : List D} (hap : ds.Pairwise Apart) {vals : List Val}
    (hty : ∀ p ∈ ds.zip vals, p.2.ty = p.1.ty) :
    ∀ p ∈ ds.zip vals, (built cap (ds.zip vals)).find p.1 = some (mkExt p) := fun p hp =>
  find_of_filter_eq (filter_key_foldl_stored_self (ds.zip vals) ⟨cap, []⟩
    (fun w hw => ⟨hty w hw, fun _ he => nomatch he⟩) (zip_pairwise_apart hap) p hp)

theorem map_valOf_built {cap : Nat} {ds : List D} (hap : ds.Pairwise Apart) {vals : List Val} (hl : vals.length = ds.length)
    (hty : ∀ p ∈ ds.zip vals, p.2.ty = p.1.ty) : ds.map (valOf (built cap (ds.zip vals))) = vals := by
  have h1 : (ds.zip vals).map (fun w => valOf (built cap (ds.zip vals)) w.1) = (ds.zip vals).map (·.2) :=
    List.map_congr_left (fun w hw => valOf_of_find (find_built hap hty w hw))
  calc ds.map (valOf (built cap (ds.zip vals)))
      = ((ds.zip vals).map (·.1)).map (valOf (built cap (ds.zip vals))) := by rw [List.map_fst_zip (Nat.le_of_eq hl.symm)]
    _ = (ds.zip vals).map (·.2) := by rw [List.map_map]; exact h1
    _ = vals := List.map_snd_zip (Nat.le_of_eq hl)

/-- the record `built` from values for `ds'` satisfies the invariant of any field list `ds ⊇ ds'` of which the fields left
    out are plain-old-data -/
theorem RecInv.built (dr : String → Bool) (cap : Nat) {ds ds' : List D} (hap : ds.Pairwise Apart) (hsub : ds'.Sublist ds)
    (hpod : ∀ d ∈ ds, d ∉ ds' → dr d.ty = false) {vals : List Val} (hl : vals.length = ds'.length)
    (hty : ∀ w ∈ ds'.zip vals, w.2.ty = w.1.ty) : RecInv dr (built cap (ds'.zip vals)) ds :=
  RecInv.of_stores dr cap _ hty (zip_pairwise_apart (hap.sublist hsub)) ds (fun _ hw => hsub.subset (List.of_mem_zip hw).1)
    fun d hd hn => hpod d hd fun hd' => hn ((List.map_fst_zip (l₂ := vals) (Nat.le_of_eq hl.symm)).symm ▸ hd')

theorem RecInv.built_all (dr : String → Bool) {cap : Nat} {ds : List D} (hap : ds.Pairwise Apart) {vals : List Val}
    (hl : vals.length = ds.length) (hty : ∀ w ∈ ds.zip vals, w.2.ty = w.1.ty) : RecInv dr (Mach.built cap (ds.zip vals)) ds :=
  RecInv.built dr cap hap (List.Sublist.refl _) (fun _ hd hn => absurd hd hn) hl hty

theorem call_of_run {dr : String → Bool} {cap : Nat} {f : Fn} {st st' st'' : St} (hr : run dr cap f.body st = .ok st')
    (hf : finish dr st' = .ok st'') : call dr cap f st = .ok st'' := by
  rw [call, hr]
  exact hf

/-- end of scope of a function that holds no record whose drop glue would run -/
theorem finish_noGlue (dr : String → Bool) (st : St) (h1 : st.selfGlue = none) (h2 : st.fromGlue = none) :
    finish dr st = .ok { st with drops := st.drops ++ (st.locals.map (·.2)).filter (fun v => dr v.ty) ++
                                    ((st.args.map (·.2)).flatten.map (·.2)).filter (fun v => dr v.ty),
                                 locals := [], args := [] } := by
  unfold finish
  simp only [h1, h2, List.append_nil]

/-- what the two constructors share -/
theorem ctor_run (dr : String → Bool) {cap : Nat} {ds : List D} (hwf : WFData cap ds) (vals : List Val) (hl : vals.length = ds.length)
    (nm : String) (hnm : nm = "from" ∨ ds = []) :
    run dr cap (ds.map (fun d => Stmt.write d "from") ++ [.retSelfData]) { args := [(nm, fieldsOf ds vals)], data := some ⟨cap, []⟩ } =
      .ok { args := [(nm, [])], result := .record (built cap (ds.zip vals)), acc := ds.map (fun d => ("write", d.offset, d.ty)) } :=
  -- the writes, into an empty buffer, then `retSelfData` by computation
  (run_seq (run_writes dr cap "from" nm ds vals _ ⟨cap, []⟩ _ hnm hwf.names hl (storeAll_empty dr hwf vals) rfl rfl)).trans rfl

/-- `new`: no machine error, nothing dropped, the record is exactly the stores of the supplied values -/
theorem ctorNew_ok (dr : String → Bool) (cap : Nat) (s : Spec) (hwf : WFData cap s.data) (vals : List Val)
    (hl : vals.length = s.data.length) :
    call dr cap (ctorNew s) { args := [("from", fieldsOf s.data vals)] } =
      .ok { result := .record (built cap (s.data.zip vals)), acc := s.data.map (fun d => ("write", d.offset, d.ty)) } :=
  call_of_run ((run_cons rfl _).trans (ctor_run dr hwf vals hl "from" (Or.inl rfl))) rfl

/-- `new_uninit`: the same for the mandatory fields; fields that may stay uninitialised are simply not there yet
    (a later write through the mutable accessor creates them: `assign_of_none`) -/
theorem ctorNewUninit_ok (dr : String → Bool) (cap : Nat) (s : Spec) (hwf : WFData cap s.data) (vals : List Val)
    (hl : vals.length = (s.data.filter (fun d => !d.uninit)).length) :
    call dr cap (ctorNewUninit s) { args := [("from", fieldsOf (s.data.filter (fun d => !d.uninit)) vals)] } =
      .ok { result := .record (built cap ((s.data.filter (fun d => !d.uninit)).zip vals)),
            acc := (s.data.filter (fun d => !d.uninit)).map (fun d => ("write", d.offset, d.ty)) } :=
  -- `safeFrom` and `letBuf` by computation; the helper is bound to `from` again unless no field is written
  call_of_run ((run_cons rfl _).trans <| (run_cons rfl _).trans <|
    ctor_run dr (hwf.filter _) vals hl _ ((any_or_filter_nil s.data _).imp_left (if_pos ·))) rfl

theorem get_ok (dr : String → Bool) (cap : Nat) (sig : String) (b : Buf) (d : D) (e : Ext)
    (hc : d.offset + d.size ≤ b.cap) (hf : b.find d = some e) :
    call dr cap ⟨sig, [.get d]⟩ { self_ := some b } =
      .ok { self_ := some b, result := .ref e.val, acc := [("get", d.offset, d.ty)] } := by
  simp [call, run, step, finish, hf, Nat.not_lt.2 hc]

theorem getMut_ok (dr : String → Bool) (cap : Nat) (sig : String) (b : Buf) (d : D) (e : Ext)
    (hc : d.offset + d.size ≤ b.cap) (hf : b.find d = some e) :
    call dr cap ⟨sig, [.getMut d]⟩ { self_ := some b } =
      .ok { self_ := some b, result := .ref e.val, acc := [("get_mut", d.offset, d.ty)] } := by
  simp [call, run, step, finish, hf, Nat.not_lt.2 hc]

theorem get_loadable (dr : String → Bool) (cap : Nat) (sig : String) (b : Buf) (d : D) (hc : d.offset + d.size ≤ b.cap)
    (hf : (∃ e, b.find d = some e) ∨ dr d.ty = false) :
    call dr cap ⟨sig, [.get d]⟩ { self_ := some b } = .ok { self_ := some b, result := .ref (valOf b d), acc := [("get", d.offset, d.ty)] } := by
  cases hfd : b.find d with
  | some e => rw [valOf_of_find hfd]; exact get_ok dr cap sig b d e hc hfd
  | none =>
    rcases hf with ⟨e, he⟩ | hp
    · rw [hfd] at he; cases he
    · simp [call, run, step, finish, hfd, Nat.not_lt.2 hc, hp, valOf]

/-- every field is found, plain-old-data included (`RecInv.found` asks it of the droppable fields only) -/
structure AllFound (b : Buf) (ds : List D) : Prop where
  found : ∀ d ∈ ds, ∃ e, b.find d = some e

/-- picking locals by distinct names: each finds its own binding, behind those (`pre`) of other names -/
theorem filterMap_find_zip : ∀ (names : List String) (vs : List Val) (pre : List (String × Val)), names.Nodup →
    vs.length = names.length → (∀ q ∈ pre, q.1 ∉ names) →
    names.filterMap (fun n => ((pre ++ names.zip vs).find? (fun q => q.1 == n)).map (fun q => (n, q.2))) = names.zip vs := by
  intro names
  induction names with
  | nil => intro vs pre _ _ _; rfl
  | cons n rest ih =>
    intro vs pre hnd hl hpre
    cases vs with
    | nil => cases hl
    | cons v vs' =>
      rw [List.nodup_cons] at hnd
      have hskip : pre.find? (fun q => q.1 == n) = none :=
        List.find?_eq_none.2 fun q hq hb => hpre q hq (beq_iff_eq.1 hb ▸ List.mem_cons_self)
      have htail := ih vs' (pre ++ [(n, v)]) hnd.2 (Nat.succ.inj hl) fun q hq hm => by
        rcases List.mem_append.1 hq with hq | hq
        · exact hpre q hq (List.mem_cons_of_mem _ hm)
        · rw [List.mem_singleton.1 hq] at hm; exact hnd.1 hm
      rw [List.append_assoc] at htail
      have hhead : (pre ++ (n, v) :: rest.zip vs').find? (fun q => q.1 == n) = some (n, v) := by
        rw [List.find?_append, hskip, Option.none_or]
        exact List.find?_cons_of_pos (beq_self_eq_true n)
      simp only [List.zip_cons_cons, List.filterMap_cons, hhead, Option.map_some]
      exact congrArg _ htail

theorem filter_bne_of_not_mem {x : String} {l : List String} (h : x ∉ l) : l.filter (· != x) = l :=
  List.filter_eq_self.2 fun _ hn => bne_iff_ne.2 fun heq => h (heq ▸ hn)

/-- the struct literal that ends `unpack` and the conversions returning the removed data: the locals are exactly the
    fields asked for (`record` aside), and all of them are moved into the result -/
theorem step_retStruct (dr : String → Bool) (cap : Nat) (st : St) (n : String) (fields names : List String) (vs : List Val)
    (hf : fields.filter (· != "record") = names) (hnd : names.Nodup) (hl : vs.length = names.length)
    (hloc : st.locals = names.zip vs) :
    step dr cap st (.retStruct n fields) =
      .ok { st with result := .struct (names.zip vs) (match st.result with | .record b => some b | _ => none), locals := [] } := by
  have hleft : (names.zip vs).filter (fun p => !names.contains p.1) = [] := by
    rw [List.filter_eq_nil_iff]
    intro p hp
    simp only [Bool.not_eq_eq_eq_not, Bool.not_true, Bool.not_eq_false, List.contains_eq_mem, decide_eq_true_eq]
    exact (List.of_mem_zip hp).1
  have hpick := filterMap_find_zip names vs [] hnd hl (fun _ hq => nomatch hq)
  rw [List.nil_append] at hpick
  unfold step
  simp only [hf, hloc, hpick, hleft, List.length_zip, hl, Nat.min_self, bne_self_eq_false, Bool.false_eq_true, if_false]
  rfl

/-- `unpack`: the values of the fields are handed back in field order; the record is forgotten, so nothing is destroyed -/
theorem unpack_ok (dr : String → Bool) (cap : Nat) (s : Spec) (b : Buf) (hcap : b.cap = cap) (hwf : WFData cap s.data)
    (hrec : "record" ∉ s.data.map (·.name)) (hinv : RecInv dr b s.data) :
    ∃ st, call dr cap (unpackFn s) { self_ := some b, selfGlue := some s.data } = .ok st ∧
      st.result = .struct ((s.data.map (·.name)).zip (s.data.map (valOf b))) none ∧ st.drops = [] :=
  ⟨_, call_of_run
    ((run_seq (run_reads dr cap (fun d => d.name) "self" s.data _ b rfl (fun d hd => hcap ▸ hwf.inCap d hd) hinv.loadable
      hwf.keyNe)).trans <|
    (run_cons rfl _).trans <|
    -- the struct literal: the locals are exactly the values read (`List.nil_append`: no local before them)
    run_cons (step_retStruct dr cap _ _ _ _ (s.data.map (valOf b)) (filter_bne_of_not_mem hrec) hwf.names (by simp)
      (List.nil_append _)) _)
    (finish_noGlue dr _ rfl rfl), rfl, rfl⟩

/-- `Drop`: every field is read back into a local; exactly the droppable values are destroyed, one per droppable field -/
theorem drop_ok (dr : String → Bool) (cap : Nat) (s : Spec) (b : Buf) (hcap : b.cap = cap) (hwf : WFData cap s.data)
    (hinv : RecInv dr b s.data) :
    ∃ st, call dr cap (dropFn s) { self_ := some b } = .ok st ∧
      st.drops = (s.data.map (valOf b)).filter (fun v => dr v.ty) ∧
      st.acc = s.data.map (fun d => ("read", d.offset, d.ty)) :=
  ⟨_, call_of_run (run_reads dr cap (fun d => "_" ++ d.name) "self" s.data _ b rfl (fun d hd => hcap ▸ hwf.inCap d hd)
      hinv.loadable hwf.keyNe) (finish_noGlue dr _ rfl rfl),
    (List.append_nil _).trans (congrArg (List.filter _) (List.map_snd_zip (by simp))), rfl⟩

/-- the added fields a conversion form writes -/
def plusWritten (sp : Spec) (uninit : Bool) : List D := sp.plus.filter (fun d => !uninit || !d.uninit)

def minusVals (sp : Spec) (b0 : Buf) : List Val := sp.minus.map (valOf b0)

/-- name under which the `plus` argument is known after the optional `let plus = Safe::from(plus)`; here and in the
    two definitions below the conditions are those of `convFn`, letter for letter (redundant `uninit &&` included), so
    that `convFn_body` holds by reassociation alone -/
def plusBind (sp : Spec) (uninit : Bool) : String :=
  if uninit then (if uninit && sp.plus.any (fun d => !d.uninit) then "plus" else "_plus") else "plus"

def safeStmts (sp : Spec) (uninit : Bool) : List Stmt :=
  if uninit then [.safeFrom (if uninit && sp.plus.any (fun d => !d.uninit) then "plus" else "_plus") (inSafeName sp.vid)
      ((safeGeneric sp.plus).map (·.2.2)) "plus"] else []

def tailStmts (sp : Spec) (andOut : Bool) : List Stmt :=
  if andOut then [.letRecord (capped sp.vid), .retStruct (outName sp.vid) ("record" :: sp.minus.map (·.name))] else [.retSelfData]

theorem convFn_body (sp : Spec) (uninit andOut : Bool) :
    (convFn sp uninit andOut).body =
      sp.minus.map (fun d => Stmt.readLet ((if andOut then "" else "_") ++ d.name) d "from") ++
      (safeStmts sp uninit ++ ([Stmt.manuallyDrop, Stmt.copyBuf ((!uninit && !sp.plus.isEmpty) || (uninit && (uninit && sp.plus.any (fun d => !d.uninit))))] ++
      ((plusWritten sp uninit).map (fun d => Stmt.write d "plus") ++ tailStmts sp andOut))) := by
  unfold convFn safeStmts tailStmts plusWritten
  simp only [List.append_assoc]

theorem plusBind_cases (sp : Spec) (uninit : Bool) : plusBind sp uninit = "plus" ∨ plusWritten sp uninit = [] := by
  cases uninit with
  | false => exact .inl rfl
  | true => exact (any_or_filter_nil sp.plus fun d => !d.uninit).imp_left (if_pos (t := "plus") (e := "_plus"))

theorem run_safeStmts (dr : String → Bool) (cap : Nat) (sp : Spec) (uninit : Bool) (st : St) (fs : List (String × Val))
    (h : st.args = [("plus", fs)]) :
    run dr cap (safeStmts sp uninit) st = .ok { st with args := [(plusBind sp uninit, fs)] } := by
  cases st
  cases h
  cases uninit <;> rfl

theorem conv_run (dr : String → Bool) (cap : Nat) (sp0 sp : Spec) (uninit andOut : Bool)
    (hw : ConvWF cap sp0.data sp.data sp.minus sp.plus) (b0 : Buf) (hcap : b0.cap = cap) (hinv : RecInv dr b0 sp0.data)
    (hrec : "record" ∉ sp.minus.map (·.name)) (vals : List Val) (hl : vals.length = (plusWritten sp uninit).length) (b2 : Buf)
    (hstore : storeAll dr (afterLoads dr b0 sp.minus) ((plusWritten sp uninit).zip vals) = .ok b2) :
    ∃ st, call dr cap (convFn sp uninit andOut)
        { from_ := some b0, fromGlue := some sp0.data, args := [("plus", fieldsOf (plusWritten sp uninit) vals)] } = .ok st ∧
      (if andOut then st.result = .struct ((sp.minus.map (·.name)).zip (minusVals sp b0)) (some b2) ∧ st.drops = []
       else st.result = .record b2 ∧ st.drops = (minusVals sp b0).filter (fun v => dr v.ty)) := by
  have hwfM := hw.wf0.sublist hw.minusSub
  -- the states between the phases are found by unification and kept out of goals: a state nested five updates deep is
  -- dear to `rw`, which walks it as a tree
  have hrun : run dr cap (convFn sp uninit andOut).body
      { from_ := some b0, fromGlue := some sp0.data, args := [("plus", fieldsOf (plusWritten sp uninit) vals)] } =
      run dr cap (tailStmts sp andOut) _ :=
    convFn_body sp uninit andOut ▸
      ((run_seq (run_reads dr cap _ "from" sp.minus _ b0 rfl (fun d hd => hcap ▸ hwfM.inCap d hd)
        (fun d hd => hinv.loadable d (hw.minusSub.subset hd)) hwfM.keyNe)).trans <|
      (run_seq (run_safeStmts dr cap sp uninit _ _ rfl)).trans <|
      (run_cons rfl _).trans <|
      (run_cons rfl _).trans <|
      run_seq (run_writes dr cap "plus" (plusBind sp uninit) (plusWritten sp uninit) vals _ _ b2 (plusBind_cases sp uninit)
        ((hw.wf1.sublist hw.plusSub).filter _).names hl hstore rfl rfl))
  cases andOut with
  | false =>
    exact ⟨_, call_of_run (hrun.trans (run_cons rfl _)) (finish_noGlue dr _ rfl rfl), rfl,
      (List.append_nil _).trans (congrArg _ (List.map_snd_zip (by simp)))⟩
  | true =>
    have hnames : ("record" :: sp.minus.map (·.name)).filter (· != "record") = sp.minus.map (·.name) :=
      (List.filter_cons_of_neg (by simp)).trans (filter_bne_of_not_mem hrec)
    exact ⟨_, call_of_run (hrun.trans ((run_cons rfl _).trans (run_cons (step_retStruct dr cap _ _ _ _ (minusVals sp b0) hnames
      hwfM.names (by simp [minusVals]) (by simp [minusVals])) _))) (finish_noGlue dr _ rfl rfl), rfl, rfl⟩

/-- the four conversion forms: the statement of C05 (`C05_convert` repeats it) -/
theorem conv_ok (dr : String → Bool) (cap : Nat) (sp0 sp : Spec) (uninit andOut : Bool)
    (hw : ConvWF cap sp0.data sp.data sp.minus sp.plus) (b0 : Buf) (hcap : b0.cap = cap) (hinv : RecInv dr b0 sp0.data)
    (hrec : "record" ∉ sp.minus.map (·.name))
    (hpod : ∀ d ∈ sp.plus, d.uninit = true → dr d.ty = false)
    (hz : ∀ p ∈ sp.plus, p.size = 0 → dr p.ty = true)
    (vals : List Val) (hl : vals.length = (plusWritten sp uninit).length)
    (hty : ∀ p ∈ (plusWritten sp uninit).zip vals, p.2.ty = p.1.ty) :
    ∃ b2 st, call dr cap (convFn sp uninit andOut)
        { from_ := some b0, fromGlue := some sp0.data, args := [("plus", fieldsOf (plusWritten sp uninit) vals)] } = .ok st ∧
      b2.cap = cap ∧
      (if andOut then st.result = .struct ((sp.minus.map (·.name)).zip (minusVals sp b0)) (some b2) ∧ st.drops = []
       else st.result = .record b2 ∧ st.drops = (minusVals sp b0).filter (fun v => dr v.ty)) ∧
      (∀ p ∈ (plusWritten sp uninit).zip vals, b2.find p.1 = some (mkExt p)) ∧
      (∀ d ∈ sp.data, d ∉ sp.plus → b2.find d = b0.find d) ∧
      RecInv dr b2 sp.data := by
  have hsubW : (plusWritten sp uninit).Sublist sp.plus := List.filter_sublist
  -- a droppable added field may not stay uninitialised
  have hwritten : ∀ d ∈ sp.plus, dr d.ty = true → d ∈ ((plusWritten sp uninit).zip vals).map (·.1) := by
    intro d hd hdr
    rw [List.map_fst_zip (Nat.le_of_eq hl.symm)]
    refine List.mem_filter.2 ⟨hd, ?_⟩
    cases hu : d.uninit with
    | false => exact Bool.or_true _
    | true => rw [hpod d hd hu] at hdr; cases hdr
  obtain ⟨b2, hstore, hc2, hfound, hcar, hinv2⟩ := conv_buffers dr hw b0 hcap hinv _ (fun w hwm => hsubW.subset (List.of_mem_zip hwm).1)
    (zip_pairwise_apart ((hw.wf1.apart.sublist hw.plusSub).sublist hsubW)) hty hwritten hz
  obtain ⟨st, hcall, hres⟩ := conv_run dr cap sp0 sp uninit andOut hw b0 hcap hinv hrec vals hl b2 hstore
  exact ⟨b2, st, hcall, hc2, hres, hfound, hcar, hinv2⟩

end Truc.Mach
