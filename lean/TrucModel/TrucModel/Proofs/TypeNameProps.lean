import TrucModel.Model.TypeName
/-
  What a type name means (`expand`: the canonical long form), and the rewriter against it: its table of
  long forms is the prelude table read backwards (`mem_patterns_iff`); `rewrite` is idempotent and, where
  module segments carry no generic arguments, keeps the meaning.
-/
namespace Truc.TN

/-- the module path of the five prelude names -/
def preludePath : String → Option (List String)
  | "Box" => some ["alloc", "boxed"]
  | "String" => some ["alloc", "string"]
  | "Vec" => some ["alloc", "vec"]
  | "Option" => some ["core", "option"]
  | "Result" => some ["core", "result"]
  | _ => none

def prefixSegs : List String → Segs → Segs
  | [], s => s
  | m :: ms, s => .cons m .nil (prefixSegs ms s)

mutual
/-- what a name means where the prelude is in scope and not shadowed: a lone `Box` / `String` / `Vec` /
    `Option` / `Result` is the item at its `alloc::` / `core::` path -/
def expand : Ty → Ty
  | .path lc segs =>
    let segs' := expandSegs segs
    .path lc (match lc, segs' with
      | false, .cons n a .nil => (match preludePath n with | some p => prefixSegs p (.cons n a .nil) | none => segs')
      | _, _ => segs')
  | .tuple es => .tuple (expandTys es)
  | .array e n => .array (expand e) n
  | .slice e => .slice (expand e)
def expandTys : Tys → Tys
  | .nil => .nil
  | .cons t ts => .cons (expand t) (expandTys ts)
def expandSegs : Segs → Segs
  | .nil => .nil
  | .cons n a rest => .cons n (expandTys a) (expandSegs rest)
end

mutual
/-- module segments carry no generic arguments (true of every Rust path to a type) -/
def ModArgsFree : Ty → Prop
  | .path _ segs => ModArgsFreeSegs segs
  | .tuple es => ModArgsFreeTys es
  | .array e _ => ModArgsFree e
  | .slice e => ModArgsFree e
def ModArgsFreeTys : Tys → Prop
  | .nil => True
  | .cons t ts => ModArgsFree t ∧ ModArgsFreeTys ts
def ModArgsFreeSegs : Segs → Prop
  | .nil => True
  | .cons _ a .nil => ModArgsFreeTys a
  | .cons _ a rest => a = .nil ∧ ModArgsFreeSegs rest
end

theorem mem_patterns_iff {names : List String} :
    names ∈ patterns ↔ ∃ m1 m2 x, names = [m1, m2, x] ∧ preludePath x = some [m1, m2] := by
  constructor
  · -- by the equations of `preludePath`: evaluating it at a literal is several times dearer
    revert names
    show ∀ names ∈ patterns, _
    exact List.forall_mem_cons.2 ⟨⟨_, _, _, rfl, preludePath.eq_1⟩, List.forall_mem_cons.2 ⟨⟨_, _, _, rfl, preludePath.eq_2⟩,
      List.forall_mem_cons.2 ⟨⟨_, _, _, rfl, preludePath.eq_3⟩, List.forall_mem_cons.2 ⟨⟨_, _, _, rfl, preludePath.eq_4⟩,
      List.forall_mem_cons.2 ⟨⟨_, _, _, rfl, preludePath.eq_5⟩, nofun⟩⟩⟩⟩⟩
  · rintro ⟨m1, m2, x, rfl, hp⟩
    unfold preludePath at hp
    split at hp
    · cases hp; exact .head _
    · cases hp; exact .tail _ (.head _)
    · cases hp; exact .tail _ (.tail _ (.head _))
    · cases hp; exact .tail _ (.tail _ (.tail _ (.head _)))
    · cases hp; exact .tail _ (.tail _ (.tail _ (.tail _ (.head _))))
    · cases hp

theorem isStdPath_iff {lc : Bool} {names : List String} :
    isStdPath lc names = true ↔ lc = false ∧ ∃ m1 m2 x, names = [m1, m2, x] ∧ preludePath x = some [m1, m2] := by
  rw [isStdPath, Bool.and_eq_true, Bool.not_eq_true', List.contains_iff_mem, mem_patterns_iff]

theorem not_std_of_short {lc : Bool} {names : List String} (h : names.length ≤ 1) : isStdPath lc names = false := by
  cases hs : isStdPath lc names with
  | false => rfl
  | true =>
    obtain ⟨-, _, _, _, rfl, -⟩ := isStdPath_iff.1 hs
    simp at h

theorem segs_of_names3 {a b c : String} : ∀ {s : Segs}, s.names = [a, b, c] →
    ∃ x y z, s = .cons a x (.cons b y (.cons c z .nil))
  | .cons _ x (.cons _ y (.cons _ z .nil)), rfl => ⟨x, y, z, rfl⟩

theorem rewrite_std {lc : Bool} {segs : Segs} (h : isStdPath lc segs.names = true) :
    rewrite (.path lc segs) = .path lc (rewriteSegs segs).lastOnly :=
  congrArg (Ty.path lc) (if_pos h)

theorem rewrite_not_std {lc : Bool} {segs : Segs} (h : isStdPath lc segs.names = false) :
    rewrite (.path lc segs) = .path lc (rewriteSegs segs) :=
  congrArg (Ty.path lc) (if_neg (by simp [h]))

theorem names_rewriteSegs : ∀ (s : Segs), (rewriteSegs s).names = s.names
  | .nil => rfl
  | .cons n _ rest => congrArg (n :: ·) (names_rewriteSegs rest)

theorem lastOnly_rewriteSegs : ∀ (s : Segs), (rewriteSegs s).lastOnly = rewriteSegs s.lastOnly
  | .nil => rfl
  | .cons _ _ .nil => rfl
  | .cons _ _ (.cons m b rest) => lastOnly_rewriteSegs (.cons m b rest)

theorem names_lastOnly_length : ∀ (s : Segs), s.lastOnly.names.length ≤ 1
  | .nil => Nat.zero_le 1
  | .cons _ _ .nil => Nat.le_refl 1
  | .cons _ _ (.cons m b rest) => names_lastOnly_length (.cons m b rest)

mutual
theorem rewrite_idem : ∀ (t : Ty), rewrite (rewrite t) = rewrite t
  | .path lc segs => by
    cases hstd : isStdPath lc segs.names with
    | true =>
      -- what is left of a std path is too short to be one
      rw [rewrite_std hstd, rewrite_not_std (not_std_of_short (names_lastOnly_length _)), ← lastOnly_rewriteSegs,
        rewriteSegs_idem segs]
    | false =>
      rw [rewrite_not_std hstd, rewrite_not_std (by rw [names_rewriteSegs, hstd]), rewriteSegs_idem segs]
  | .tuple es => congrArg Ty.tuple (rewriteTys_idem es)
  | .array e n => congrArg (Ty.array · n) (rewrite_idem e)
  | .slice e => congrArg Ty.slice (rewrite_idem e)
theorem rewriteTys_idem : ∀ (ts : Tys), rewriteTys (rewriteTys ts) = rewriteTys ts
  | .nil => rfl
  | .cons t ts => by
    show Tys.cons _ _ = Tys.cons _ _
    rw [rewrite_idem t, rewriteTys_idem ts]
theorem rewriteSegs_idem : ∀ (s : Segs), rewriteSegs (rewriteSegs s) = rewriteSegs s
  | .nil => rfl
  | .cons n a rest => by
    show Segs.cons n _ _ = Segs.cons n _ _
    rw [rewriteTys_idem a, rewriteSegs_idem rest]
end

theorem expand_path (lc : Bool) (s : Segs) :
    expand (.path lc s) = .path lc (match lc, expandSegs s with
      | false, .cons n a .nil => (match preludePath n with | some p => prefixSegs p (.cons n a .nil) | none => expandSegs s)
      | _, _ => expandSegs s) := rfl

theorem expand_short {m1 m2 x : String} (hp : preludePath x = some [m1, m2]) (a : Tys) :
    expand (.path false (.cons x a .nil)) = expand (.path false (.cons m1 .nil (.cons m2 .nil (.cons x a .nil)))) := by
  rw [expand_path]
  simp only [expandSegs, hp]
  rfl

mutual
theorem expand_rewrite : ∀ (t : Ty), ModArgsFree t → expand (rewrite t) = expand t
  | .path lc segs, hm => by
    -- the one recursive call, on `segs` itself (on the `a` obtained below it would not be structural)
    have hsegs : expand (.path lc (rewriteSegs segs)) = expand (.path lc segs) := by
      rw [expand_path, expand_path, expandSegs_rewriteSegs segs hm]
    cases hstd : isStdPath lc segs.names with
    | true =>
      -- the path is a long form without arguments on its module segments, rewritten to the short one
      obtain ⟨rfl, m1, m2, x, hn, hp⟩ := isStdPath_iff.1 hstd
      obtain ⟨a1, a2, a, rfl⟩ := segs_of_names3 hn
      obtain ⟨rfl, rfl, -⟩ := hm
      rw [rewrite_std hstd]
      exact (expand_short hp (rewriteTys a)).trans hsegs
    | false => rw [rewrite_not_std hstd]; exact hsegs
  | .tuple es, hm => congrArg Ty.tuple (expandTys_rewriteTys es hm)
  | .array e n, hm => congrArg (Ty.array · n) (expand_rewrite e hm)
  | .slice e, hm => congrArg Ty.slice (expand_rewrite e hm)
theorem expandTys_rewriteTys : ∀ (ts : Tys), ModArgsFreeTys ts → expandTys (rewriteTys ts) = expandTys ts
  | .nil, _ => rfl
  | .cons t ts, hm => by
    show Tys.cons _ _ = Tys.cons _ _
    rw [expand_rewrite t hm.1, expandTys_rewriteTys ts hm.2]
theorem expandSegs_rewriteSegs : ∀ (s : Segs), ModArgsFreeSegs s → expandSegs (rewriteSegs s) = expandSegs s
  | .nil, _ => rfl
  | .cons n a .nil, hm => congrArg (Segs.cons n · .nil) (expandTys_rewriteTys a hm)
  | .cons n a (.cons m b rest), hm => by
    obtain ⟨rfl, hr⟩ := hm
    exact congrArg (Segs.cons n .nil) (expandSegs_rewriteSegs (.cons m b rest) hr)
end

end Truc.TN
