import TrucModel.Model.Strategy
import TrucModel.Proofs.ListFacts
/-
  The size-ordered traversal of the pending additions in the `simple` strategy
  (`BTreeMap<usize, Vec<_>>`, `.into_values().rev().flatten()`): a permutation, sorted by decreasing size
  and *stable* — inside one size class the request order is kept.
-/
namespace Truc

theorem insertBySize_perm (defs : Defs) (id : Nat) (acc : List Nat) : (insertBySize defs id acc).Perm (id :: acc) := by
  fun_induction insertBySize defs id acc with
  | case1 => exact .refl _
  | case2 => exact .refl _
  | case3 x xs _ ih => exact (ih.cons x).trans (.swap id x xs)

theorem sortBySizeDesc_concat (defs : Defs) (add : List Nat) (a : Nat) :
    sortBySizeDesc defs (add ++ [a]) = insertBySize defs a (sortBySizeDesc defs add) :=
  List.foldl_append

theorem sortBySizeDesc_perm (defs : Defs) (add : List Nat) : (sortBySizeDesc defs add).Perm add := by
  -- induction from the end of `add`
  rw [← add.reverse_reverse]
  induction add.reverse with
  | nil => exact .refl _
  | cons a r ih =>
    rw [List.reverse_cons, sortBySizeDesc_concat]
    exact (insertBySize_perm defs a _).trans ((ih.cons a).trans (List.perm_append_singleton a _).symm)

def SizeDesc (defs : Defs) (l : List Nat) : Prop := l.Pairwise (fun a b => sz defs b ≤ sz defs a)

theorem insertBySize_sorted (defs : Defs) (id : Nat) (xs : List Nat) (h : SizeDesc defs xs) :
    SizeDesc defs (insertBySize defs id xs) := by
  fun_induction insertBySize defs id xs with
  | case1 => exact List.pairwise_singleton _ _
  | case2 x xs hlt =>
    refine List.pairwise_cons.2 ⟨fun b hb => Nat.le_of_lt ?_, h⟩
    rcases List.mem_cons.1 hb with rfl | hb
    · exact hlt
    · exact Nat.lt_of_le_of_lt (List.rel_of_pairwise_cons h hb) hlt
  | case3 x xs hlt ih =>
    refine List.pairwise_cons.2 ⟨fun b hb => ?_, ih h.of_cons⟩
    rcases List.mem_cons.1 ((insertBySize_perm defs id xs).mem_iff.1 hb) with rfl | hb
    · exact Nat.le_of_not_lt hlt
    · exact List.rel_of_pairwise_cons h hb

/-- stability: `id` comes behind everything of its own size -/
theorem insertBySize_filter (defs : Defs) (id : Nat) (k : Nat) (xs : List Nat) (h : SizeDesc defs xs) :
    (insertBySize defs id xs).filter (fun d => sz defs d = k) =
      xs.filter (fun d => sz defs d = k) ++ [id].filter (fun d => sz defs d = k) := by
  fun_induction insertBySize defs id xs with
  | case1 => rfl
  | case2 x xs hlt =>
    -- `id` is put in front of `x`: nothing from `x` on is as large as `id`
    have hall : ∀ b ∈ x :: xs, sz defs b < sz defs id :=
      List.forall_mem_cons.2 ⟨hlt, fun b hb => Nat.lt_of_le_of_lt (List.rel_of_pairwise_cons h hb) hlt⟩
    rw [filter_cons_eq_append _ id]
    by_cases hk : sz defs id = k
    · subst hk
      rw [List.filter_eq_nil_iff.2 fun b hb e => Nat.ne_of_lt (hall b hb) (of_decide_eq_true e),
        List.append_nil, List.nil_append]
    · rw [List.filter_cons_of_neg (a := id) (mt of_decide_eq_true hk), List.filter_nil, List.append_nil, List.nil_append]
  | case3 x xs _ ih =>
    rw [filter_cons_eq_append _ x, filter_cons_eq_append _ x xs, ih h.of_cons, List.append_assoc]

end Truc
