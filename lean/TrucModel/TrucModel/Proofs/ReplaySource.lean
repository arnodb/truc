import TrucModel.Proofs.ReplayProps
import TrucModel.Proofs.Corollaries
/-
  Every definition the builder produces from valid requests satisfies `SrcChain`, the premise of the
  replay theorem: ids are never reused, a close without changes creates no variant.
-/
namespace Truc

/-- the id part of `SrcChain` -/
def IdChain : List Nat → Option (List Nat) → List (List Nat) → Prop
  | _, _, [] => True
  | seen, prev, v :: vs =>
      (∀ d ∈ v, d ∉ prev.getD [] → d ∉ seen) ∧ (∀ old, prev = some old → ¬ (∀ d, d ∈ old ↔ d ∈ v)) ∧
      IdChain (seen ++ v) (some v) vs

theorem SrcChain.of_idChain (src : Defs) (vs : List (List Nat)) (seen : List Nat) (prev : Option (List Nat))
    (hv : ∀ v ∈ vs, VOk src v) (hc : IdChain seen prev vs) : SrcChain src seen prev vs := by
  induction vs generalizing seen prev with
  | nil => trivial
  | cons v vs ih =>
    exact ⟨hv v List.mem_cons_self, hc.1, hc.2.1, ih _ _ (fun w hw => hv w (List.mem_cons_of_mem _ hw)) hc.2.2⟩

/-- the chain is defined from the first variant on, the builder appends at the end -/
theorem IdChain.snoc (w : List Nat) (vs : List (List Nat)) (seen : List Nat) (prev : Option (List Nat))
    (hc : IdChain seen prev vs)
    (h1 : ∀ d ∈ w, d ∉ ((vs.getLast?).or prev).getD [] → d ∉ seen ++ vs.flatten)
    (h2 : ∀ old, (vs.getLast?).or prev = some old → ¬ (∀ d, d ∈ old ↔ d ∈ w)) :
    IdChain seen prev (vs ++ [w]) := by
  induction vs generalizing seen prev with
  | nil =>
    rw [List.flatten_nil, List.append_nil] at h1
    exact ⟨h1, h2, trivial⟩
  | cons u us ih =>
    have hor : ((u :: us).getLast?).or prev = (us.getLast?).or (some u) := by
      rw [List.getLast?_cons]
      cases us.getLast? <;> rfl
    rw [hor] at h1 h2
    rw [List.flatten_cons, ← List.append_assoc] at h1
    exact ⟨hc.1, hc.2.1, ih (seen ++ u) (some u) hc.2.2 h1 h2⟩

/-- what the builder maintains so that its output satisfies `SrcChain` -/
structure CInv (s : BState) : Prop where
  chain : IdChain [] none s.variants
  rmIn  : ∀ x ∈ s.toRemove, x ∈ (s.variants.getLast?).getD []

theorem CInv.init : CInv BState.init := ⟨trivial, fun _ h => nomatch h⟩

theorem CInv.step (s : BState) (r : Req) (hb : BInv s) (h : CInv s) (hr : r.valid) : CInv (Truc.step s r) := by
  cases r with
  | add i =>
    rw [step_add]
    rcases addDatum_cases s { i with offset := UNSET } with ⟨_, he⟩ | ⟨_, he⟩ <;> rw [he]
    · exact h
    · exact ⟨h.chain, h.rmIn⟩
  | remove id =>
    rw [step_remove]
    rcases removeDatum_cases s id with ⟨⟨_, he⟩, _⟩ | ⟨hin, _, he⟩ | ⟨_, _, he⟩ <;> rw [he]
    · exact h
    · exact ⟨h.chain, fun x hx => (List.mem_append.1 hx).elim (h.rmIn x) (fun hx => List.mem_singleton.1 hx ▸ hin)⟩
    · exact ⟨h.chain, h.rmIn⟩
  | close st =>
    cases hp : s.hasPendingChanges with
    | false => rw [step_close (close_of_not_pending st hp)]; exact h
    | true =>
      obtain ⟨defs', l', hc, hok⟩ := hb.close_spec hr hp
      rw [step_close hc]
      have hmem : ∀ d, d ∈ l' ↔ (d ∈ (s.variants.getLast?).getD [] ∧ d ∉ s.toRemove) ∨ d ∈ s.toAdd := fun d => by
        rw [hok.perm.mem_iff, List.mem_append, mem_removeData]
      refine ⟨IdChain.snoc l' s.variants [] none h.chain (fun d hd hn hf => ?_) (fun old hold hiff => ?_), fun _ hx => nomatch hx⟩
      -- a datum the previous variant does not have was added, and additions are fresh
      · rw [Option.or_none] at hn
        obtain ⟨v, hv, hdv⟩ := List.mem_flatten.1 hf
        exact hb.addFresh d (((hmem d).1 hd).resolve_left (fun h1 => hn h1.1)) v hv hdv
      -- with changes pending, a removed or an added datum tells the new variant from the previous one
      · rw [Option.or_none] at hold
        have holdm : old ∈ s.variants := List.mem_of_getLast? hold
        rcases (hasPendingChanges_iff s).1 hp with h0 | hR | hA
        · rw [h0] at holdm; cases holdm
        · obtain ⟨x, hx⟩ := List.exists_mem_of_ne_nil _ hR
          have hxo : x ∈ old := by have := h.rmIn x hx; rwa [hold] at this
          rcases (hmem x).1 ((hiff x).1 hxo) with h1 | h2
          · exact h1.2 hx
          · exact hb.addFresh x h2 old holdm hxo
        · obtain ⟨a, ha⟩ := List.exists_mem_of_ne_nil _ hA
          exact hb.addFresh a ha old holdm ((hiff a).2 ((hmem a).2 (Or.inr ha)))

theorem reachable_CInv (reqs : List Req) (hv : ∀ r ∈ reqs, r.valid) : CInv (run reqs) :=
  (foldl_step_induction CInv.step reqs _ BInv.init CInv.init hv).2

theorem builder_srcChain (reqs : List Req) (hv : ∀ r ∈ reqs, r.valid) (d : Definition) (hb : (run reqs).build = some d) :
    SrcChain d.defs [] none d.variants := by
  obtain ⟨hB, hN⟩ := reachable_BInv_NInv reqs hv
  rw [BState.build_eq_some hb]
  refine SrcChain.of_idChain _ _ _ _ (fun v hvm => ?_) (reachable_CInv reqs hv).chain
  have hl := hB.vinv v hvm
  exact ⟨hl.nodup, hl.inRange, hN.variants v hvm, fun d hd => hB.alignPos d (hl.inRange d hd)⟩

end Truc
