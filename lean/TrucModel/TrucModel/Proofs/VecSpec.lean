import TrucModel.Proofs.VecConvert
/- The left-to-right specification `spec`: which converters never fail (`neverFails`), its call log, where it fails,
   and the two everyday converters (always `map`, always abandon). -/
namespace Truc.Vec

variable {T U E P : Type}

def neverFails (conv : Nat → T → Option U → COut U E P) : Prop :=
  ∀ k t p, (∃ u p', conv k t p = .converted u p') ∨ (∃ p', conv k t p = .abandoned p')

theorem spec_ok_of_neverFails (conv : Nat → T → Option U → COut U E P) (h : neverFails conv) :
    ∀ (input : List T) (outs : List U) (calls : List (T × Option U)),
      ∃ outs' calls', spec conv input outs calls = .ok outs' calls' := by
  intro input
  induction input with
  | nil => intro outs calls; exact ⟨outs, calls, rfl⟩
  | cons t rest ih =>
    intro outs calls
    rw [spec]
    rcases h calls.length t outs.getLast? with ⟨u, p', hc⟩ | ⟨p', hc⟩
    all_goals rw [hc]; exact ih _ _

/-- the call log: every input exactly once, in order, up to what a failed pass leaves -/
theorem spec_calls (conv : Nat → T → Option U → COut U E P) :
    ∀ (input : List T) (outs : List U) (calls : List (T × Option U)),
      (match spec conv input outs calls with
        | .ok _ calls' => calls'.map (·.1)
        | .failed _ _ rest calls' => calls'.map (·.1) ++ rest) = calls.map (·.1) ++ input := by
  intro input
  induction input with
  | nil => intro outs calls; exact (List.append_nil _).symm
  | cons t rest ih =>
    intro outs calls
    have step : ∀ l : List T, (calls ++ [(t, outs.getLast?)]).map (·.1) ++ l = calls.map (·.1) ++ t :: l := by simp
    rw [spec]
    cases conv calls.length t outs.getLast? with
    | converted _ _ | abandoned _ => exact (ih _ _).trans (step rest)
    | err _ _ | panic _ _ => exact step rest

/-- each call receives the most recently produced output, as left by the previous calls -/
def callsConsistent (conv : Nat → T → Option U → COut U E P) : List T → List U → Nat → List (T × Option U)
  | [], _, _ => []
  | t :: rest, outs, k =>
    (t, outs.getLast?) ::
      match conv k t outs.getLast? with
      | .converted u p' => callsConsistent conv rest (setLast outs p' ++ [u]) (k + 1)
      | .abandoned p' => callsConsistent conv rest (setLast outs p') (k + 1)
      | _ => []

theorem spec_failed (conv : Nat → T → Option U → COut U E P) :
    ∀ (input : List T) (outs : List U) (calls : List (T × Option U)) {why : Sum E P} {outs' : List U} {rest' : List T}
      {calls' : List (T × Option U)}, spec conv input outs calls = .failed why outs' rest' calls' →
      ∃ (t : T) (prev p' : Option U),
        calls'.getLast? = some (t, prev) ∧
        ((∃ e, why = .inl e ∧ conv (calls'.length - 1) t prev = .err e p') ∨
         (∃ p, why = .inr p ∧ conv (calls'.length - 1) t prev = .panic p p')) := by
  intro input
  induction input with
  | nil => intro outs calls why outs' rest' calls' h; cases h
  | cons t rest ih =>
    intro outs calls why outs' rest' calls' h
    have hlen : (calls ++ [(t, outs.getLast?)]).length - 1 = calls.length := by simp
    rw [spec] at h
    generalize hc : conv calls.length t outs.getLast? = r at h
    cases r with
    | converted _ _ | abandoned _ => exact ih _ _ h
    | err e p' =>
      cases h
      exact ⟨t, _, p', List.getLast?_concat, .inl ⟨e, rfl, hlen ▸ hc⟩⟩
    | panic p p' =>
      cases h
      exact ⟨t, _, p', List.getLast?_concat, .inr ⟨p, rfl, hlen ▸ hc⟩⟩

theorem setLast_getLast (outs : List U) : setLast outs outs.getLast? = outs := by
  rcases outs.eq_nil_or_concat with rfl | ⟨init, u, rfl⟩
  · rfl
  · simp [setLast]

theorem setLast_none (outs : List U) : setLast outs none = outs := by
  unfold setLast; cases outs.length <;> rfl

theorem spec_map (f : T → U) (conv : Nat → T → Option U → COut U E P)
    (hc : ∀ k t p, conv k t p = .converted (f t) p) :
    ∀ (input : List T) (outs : List U) (calls : List (T × Option U)),
      ∃ calls', spec conv input outs calls = .ok (outs ++ input.map f) calls' := by
  intro input
  induction input with
  | nil => intro outs calls; exact ⟨calls, by rw [List.map_nil, List.append_nil, spec]⟩
  | cons t rest ih =>
    intro outs calls
    rw [spec, List.map_cons, List.append_cons outs]
    simp only [hc, setLast_getLast]
    exact ih _ _

theorem spec_abandon (conv : Nat → T → Option U → COut U E P) (hc : ∀ k t p, conv k t p = .abandoned none) :
    ∀ (input : List T) (outs : List U) (calls : List (T × Option U)),
      ∃ calls', spec conv input outs calls = .ok outs calls' := by
  intro input
  induction input with
  | nil => intro outs calls; exact ⟨calls, rfl⟩
  | cons t rest ih =>
    intro outs calls
    rw [spec]
    simp only [hc, setLast_none]
    exact ih _ _

end Truc.Vec
