import TrucModel.Proofs.Basic
/-
  Layout decisions read nothing but sizes, alignments and offsets: every strategy commutes with
  erasing the names, type names and uninit flags of the datum collection (C18, first sentence); hence
  two histories with the same geometry (`SameGeo`) in which no addition is refused (`Accepted`) lead
  to the same layout (`layout_factor_from`).
-/
namespace Truc

/-- everything a layout decision may not look at, erased; `G`, `G2`, `GS`, `GB` erase it from a collection, a strategy's
    result, the state of `simple`, a builder state -/
def eraseI (i : Info) : Info := { i with name := "", ty := "", uninit := false }

def G (defs : Defs) : Defs := defs.map eraseI

@[simp] theorem G_length (defs : Defs) : (G defs).length = defs.length := by simp [G]

theorem info_G (defs : Defs) (id : Nat) : info (G defs) id = eraseI (info defs id) := by
  unfold info G
  rw [List.getElem?_map]
  cases defs[id]? <;> rfl

@[simp] theorem sz_G (defs : Defs) (id : Nat) : sz (G defs) id = sz defs id := by simp [sz, info_G, eraseI]
@[simp] theorem al_G (defs : Defs) (id : Nat) : al (G defs) id = al defs id := by simp [al, info_G, eraseI]
@[simp] theorem off_G (defs : Defs) (id : Nat) : off (G defs) id = off defs id := by simp [off, info_G, eraseI]
@[simp] theorem stop_G (defs : Defs) (id : Nat) : stop (G defs) id = stop defs id := by simp [stop]

@[simp] theorem setOffset_G (defs : Defs) (id o : Nat) : setOffset (G defs) id o = G (setOffset defs id o) := by
  unfold setOffset G
  induction defs generalizing id with
  | nil => simp
  | cons x xs ih =>
    cases id with
    | zero => simp [eraseI]
    | succ n => simp [ih]

@[simp] theorem endOf_G (defs : Defs) (l : List Nat) : endOf (G defs) l = endOf defs l := by
  unfold endOf; cases l.getLast? <;> simp

def G2 (p : Defs × List Nat) : Defs × List Nat := (G p.1, p.2)

theorem pushDatum_G (defs : Defs) (l : List Nat) (id : Nat) :
    pushDatum (G defs) l id = (G (pushDatum defs l id).1, (pushDatum defs l id).2) := by
  simp only [pushDatum, endOf_G, al_G, setOffset_G]

theorem pushAll_G (add : List Nat) (defs : Defs) (l : List Nat) : pushAll (G defs) l add = G2 (pushAll defs l add) := by
  induction add generalizing defs l with
  | nil => rfl
  | cons id rest ih =>
    simp only [pushAll, pushDatum_G]
    exact ih _ _

theorem basicScan_G (defs : Defs) (data : List Nat) (dsz dal dc bc : Nat) :
    basicScan (G defs) data dsz dal dc bc = basicScan defs data dsz dal dc bc := by
  fun_induction basicScan defs data dsz dal dc bc with
  | case1 dc hlt c ih =>
    rw [basicScan, dif_pos hlt]
    simp only [off_G, sz_G]
    rw [if_pos rfl]
    exact ih
  | case2 dc bc hlt c hne bc' hfit =>
    rw [basicScan, dif_pos hlt]
    simp only [off_G, sz_G]
    rw [if_neg hne, if_pos hfit]
  | case3 dc bc hlt c hne bc' hfit ih =>
    rw [basicScan, dif_pos hlt]
    simp only [off_G, sz_G]
    rw [if_neg hne, if_neg hfit]
    exact ih
  | case4 dc bc hlt => rw [basicScan, dif_neg hlt]

theorem basicLoop_G (add : List Nat) (defs : Defs) (data : List Nat) (dc bc : Nat) :
    basicLoop (G defs) data dc bc add = (basicLoop defs data dc bc add).map G2 := by
  induction add generalizing defs data dc bc with
  | nil => rfl
  | cons id rest ih =>
    simp only [basicLoop, basicScan_G, sz_G, al_G]
    cases insertAt? data (basicScan defs data (sz defs id) (al defs id) dc bc).1 id with
    | none => rfl
    | some data' => simp only [setOffset_G]; exact ih _ _ _ _

theorem initialGapsFrom_G (defs : Defs) (l : List Nat) (i last : Nat) :
    initialGapsFrom (G defs) l i last = initialGapsFrom defs l i last := by
  induction l generalizing i last with
  | nil => rfl
  | cons d rest ih => simp only [initialGapsFrom, off_G, stop_G, ih]

theorem insertBySize_G (defs : Defs) (id : Nat) (acc : List Nat) :
    insertBySize (G defs) id acc = insertBySize defs id acc := by
  induction acc with
  | nil => rfl
  | cons x xs ih => simp only [insertBySize, sz_G, ih]

theorem sortBySizeDesc_G (defs : Defs) (add : List Nat) : sortBySizeDesc (G defs) add = sortBySizeDesc defs add := by
  unfold sortBySizeDesc
  congr 1
  funext acc id
  exact insertBySize_G defs id acc

def GS (s : SState) : SState := ⟨G s.defs, s.data, s.gaps⟩

theorem simpleStep_G (s : SState) (id : Nat) : simpleStep (GS s) id = (simpleStep s id).map GS := by
  unfold simpleStep GS
  dsimp only
  rw [sz_G, al_G]
  cases chooseFit (al s.defs id) (minGroup (collectFits (sz s.defs id) (al s.defs id) s.gaps 0)) with
  | none =>
    rw [pushDatum_G]
    rfl
  | some f =>
    dsimp only
    cases s.gaps[f.gi]? with
    | none => rfl
    | some gap =>
      dsimp only
      cases insertAt? s.data gap.idx id with
      | none => rfl
      | some data' =>
        rw [setOffset_G]
        rfl

theorem simpleLoop_G (ids : List Nat) (s : SState) : simpleLoop (GS s) ids = (simpleLoop s ids).map GS := by
  induction ids generalizing s with
  | nil => rfl
  | cons id rest ih =>
    simp only [simpleLoop, simpleStep_G]
    cases simpleStep s id with
    | none => rfl
    | some s' => exact ih s'

theorem simple_G (defs : Defs) (data add rm : List Nat) : simple (G defs) data add rm = (simple defs data add rm).map G2 := by
  unfold simple
  simp only [sortBySizeDesc_G]
  have : (⟨G defs, removeData data rm, initialGaps (G defs) (removeData data rm)⟩ : SState) =
      GS ⟨defs, removeData data rm, initialGaps defs (removeData data rm)⟩ := by
    simp [GS, initialGaps, initialGapsFrom_G]
  rw [this, simpleLoop_G]
  cases simpleLoop ⟨defs, removeData data rm, initialGaps defs (removeData data rm)⟩ (sortBySizeDesc defs add) with
  | none => rfl
  | some s => rfl

theorem runStrategy_G (st : Strategy) (defs : Defs) (data add rm : List Nat) :
    runStrategy st (G defs) data add rm = (runStrategy st defs data add rm).map G2 := by
  unfold runStrategy
  simp only [al_G]
  split
  · rfl
  · cases st with
    | simple => exact simple_G defs data add rm
    | basic => exact basicLoop_G add defs _ 0 0
    | append => exact congrArg some (pushAll_G add defs _)
    | appendRev => exact congrArg some (pushAll_G add.reverse defs _)
    | gAppend => rfl
    | gAppendRev => rfl

def GB (s : BState) : BState := { s with defs := G s.defs }

theorem close_G (s : BState) (st : Strategy) : (GB s).close st = (s.close st).map (fun p => (GB p.1, p.2)) := by
  cases hp : s.hasPendingChanges with
  | false => rw [close_of_not_pending st hp, close_of_not_pending st (s := GB s) hp]; rfl
  | true =>
    rw [close_of_pending st hp, close_of_pending st (s := GB s) hp]
    simp only [GB, runStrategy_G, Option.map_map]
    rfl

/-- two requests of the same kind that agree on all a layout decision reads: size and alignment of an addition,
    the id removed, the strategy of a close -/
def geoEq : Req → Req → Prop
  | .add i, .add i' => i.size = i'.size ∧ i.align = i'.align
  | .remove a, .remove b => a = b
  | .close st, .close st' => st = st'
  | _, _ => False

def SameGeo : List Req → List Req → Prop
  | [], [] => True
  | r :: rs, r' :: rs' => geoEq r r' ∧ SameGeo rs rs'
  | _, _ => False

theorem SameGeo.map {f : Req → Req} (hf : ∀ r, geoEq r (f r)) : ∀ rs : List Req, SameGeo rs (rs.map f)
  | [] => trivial
  | r :: rs => ⟨hf r, SameGeo.map hf rs⟩

/-- no addition of the history is refused (the only thing names are used for) -/
def Accepted (s : BState) : List Req → Prop
  | [] => True
  | r :: rest =>
    (match r with
     | .add i => (s.currentByName i.name).isSome = false
     | _ => True) ∧ Accepted (step s r) rest

theorem GB_step_remove (s : BState) (id : Nat) : GB (step s (.remove id)) = step (GB s) (.remove id) := by
  rw [step_remove, step_remove]
  exact (congrArg Prod.fst (removeDatum_mapDefs G s id)).symm

theorem GB_step_close (s : BState) (st : Strategy) : GB (step s (.close st)) = step (GB s) (.close st) := by
  simp only [step, close_G]
  cases s.close st with
  | none => rfl
  | some p => rfl

theorem GB_step_add {s : BState} {i : Info} (ha : (s.currentByName i.name).isSome = false) :
    GB (step s (.add i)) =
      { GB s with
        defs := (GB s).defs ++ [eraseI { i with offset := UNSET }]
        toAdd := (GB s).toAdd ++ [(GB s).defs.length] } := by
  rw [step_add, addDatum_eq s { i with offset := UNSET } ha]
  simp only [GB, G, List.map_append, List.map_cons, List.map_nil, List.length_map]

theorem layout_factor_from : ∀ (rs rs' : List Req) (s s' : BState), GB s = GB s' → SameGeo rs rs' →
    Accepted s rs → Accepted s' rs' → GB (rs.foldl step s) = GB (rs'.foldl step s') := by
  intro rs rs'
  fun_induction SameGeo rs rs' with
  | case1 => intro s s' h _ _ _; exact h
  | case2 r rs r' rs' ih =>
    intro s s' h ⟨hr, hrest⟩ ha ha'
    refine ih _ _ ?_ hrest ha.2 ha'.2
    -- `geoEq` relates only requests of the same kind
    cases r <;> cases r' <;> try exact hr.elim
    · rw [GB_step_add ha.1, GB_step_add ha'.1, h]
      simp only [eraseI, hr.1, hr.2]
    · cases (hr : _ = _)
      rw [GB_step_remove, GB_step_remove, h]
    · cases (hr : _ = _)
      rw [GB_step_close, GB_step_close, h]
  | case3 rs rs' _ _ => intro _ _ _ hg; exact hg.elim

end Truc
