import TrucModel.Proofs.Close
/-
  `simple`, the gaps: the equations of `initialGapsFrom`; the gap invariant `GInv` (the gap list is that of the
  present layout), kept by a placement into a gap and by a push.
-/
namespace Truc

/-- a gap of `simple` is free space in front of list position `g.idx`: everything listed before that position ends
    at or before `g.start`, everything from it on starts at or after `g.stop` -/
structure GapOk (defs : Defs) (l : List Nat) (g : Gap) : Prop where
  pos    : g.start < g.stop
  idx    : g.idx < l.length
  before : ∀ e ∈ l.take g.idx, stop defs e ≤ g.start
  after  : ∀ e ∈ l.drop g.idx, g.stop ≤ off defs e

theorem initialGapsFrom_cons (defs : Defs) (d : Nat) (rest : List Nat) (i last : Nat) :
    initialGapsFrom defs (d :: rest) i last =
      (if off defs d > last then [⟨last, off defs d, i⟩] else []) ++ initialGapsFrom defs rest (i + 1) (stop defs d) := by
  rw [initialGapsFrom, ite_cons_eq_append]

theorem initialGapsFrom_succ (defs : Defs) (l : List Nat) : ∀ i last,
    initialGapsFrom defs l (i + 1) last = bumpIdx (initialGapsFrom defs l i last) := by
  induction l with
  | nil => intro _ _; rfl
  | cons d rest ih =>
    intro i last
    rw [initialGapsFrom_cons, initialGapsFrom_cons, ih]
    unfold bumpIdx
    split <;> rfl

theorem initialGapsFrom_setOffset_notin (defs : Defs) {l : List Nat} {id : Nat} (o : Nat) (hid : id ∉ l) : ∀ i last,
    initialGapsFrom (setOffset defs id o) l i last = initialGapsFrom defs l i last := by
  induction l with
  | nil => intro _ _; rfl
  | cons d rest ih =>
    intro i last
    have hd : d ≠ id := fun e => hid (e ▸ List.mem_cons_self)
    rw [initialGapsFrom_cons, initialGapsFrom_cons, off_setOffset_ne _ _ _ _ hd, stop_setOffset_ne _ _ _ _ hd,
      ih (fun h => hid (List.mem_cons_of_mem _ h))]

theorem initialGaps_setOffset_notin (defs : Defs) {l : List Nat} {id : Nat} (o : Nat) (hid : id ∉ l) :
    initialGaps (setOffset defs id o) l = initialGaps defs l :=
  initialGapsFrom_setOffset_notin defs o hid 0 0

/-! `initialGapsFrom` with the scanned prefix `pre` as a variable: the running index is its length, `last` its end. -/

theorem initialGapsFrom_append (defs : Defs) (p q : List Nat) : ∀ pre : List Nat,
    initialGapsFrom defs (p ++ q) pre.length (endOf defs pre) =
      initialGapsFrom defs p pre.length (endOf defs pre) ++
        initialGapsFrom defs q (pre ++ p).length (endOf defs (pre ++ p)) := by
  induction p with
  | nil => intro pre; rw [List.append_nil]; rfl
  | cons d p ih =>
    intro pre
    have := ih (pre ++ [d])
    rw [List.length_append, List.length_singleton, endOf_concat, List.append_assoc, List.singleton_append] at this
    rw [List.cons_append, initialGapsFrom_cons, initialGapsFrom_cons, this, List.append_assoc]

/-- the `gi`-th gap found lies in front of a listed datum `c`, and `gi` gaps are found before `c` -/
theorem initialGapsFrom_getElem? {defs : Defs} {g : Gap} (rest : List Nat) : ∀ (pre : List Nat) (gi : Nat),
    (initialGapsFrom defs rest pre.length (endOf defs pre))[gi]? = some g →
    ∃ p c q, rest = p ++ c :: q ∧ g = ⟨endOf defs (pre ++ p), off defs c, (pre ++ p).length⟩ ∧
      endOf defs (pre ++ p) < off defs c ∧ (initialGapsFrom defs p pre.length (endOf defs pre)).length = gi := by
  induction rest with
  | nil => intro pre gi h; cases h
  | cons d rest ih =>
    intro pre gi h
    have ih' := ih (pre ++ [d])
    rw [List.length_append, List.length_singleton, endOf_concat] at ih'
    rw [initialGapsFrom_cons] at h
    by_cases hgt : off defs d > endOf defs pre
    · rw [if_pos hgt, List.singleton_append] at h
      cases gi with
      | zero =>
        obtain rfl := Option.some.inj h
        exact ⟨[], d, rest, rfl, by rw [List.append_nil], by rw [List.append_nil]; exact hgt, rfl⟩
      | succ n =>
        obtain ⟨p, c, q, rfl, hg, hpos, rfl⟩ := ih' n h
        rw [← List.append_cons] at hg hpos
        exact ⟨d :: p, c, q, rfl, hg, hpos, by rw [initialGapsFrom_cons, if_pos hgt]; rfl⟩
    · rw [if_neg hgt, List.nil_append] at h
      obtain ⟨p, c, q, rfl, hg, hpos, rfl⟩ := ih' gi h
      rw [← List.append_cons] at hg hpos
      exact ⟨d :: p, c, q, rfl, hg, hpos, by rw [initialGapsFrom_cons, if_neg hgt]; rfl⟩

theorem initialGaps_append (defs : Defs) (p q : List Nat) :
    initialGaps defs (p ++ q) = initialGaps defs p ++ initialGapsFrom defs q p.length (endOf defs p) :=
  initialGapsFrom_append defs p q []

/-- the `gi`-th initial gap lies in front of a listed datum `c`; the gaps before it are those of the data before `c`,
    the gaps behind it those found from `c` on -/
theorem initialGaps_getElem? {defs : Defs} {l : List Nat} {gi : Nat} {g : Gap} (h : (initialGaps defs l)[gi]? = some g) :
    ∃ p c q, l = p ++ c :: q ∧ g = ⟨endOf defs p, off defs c, p.length⟩ ∧ endOf defs p < off defs c ∧
      (initialGaps defs p).length = gi ∧
      initialGaps defs l = initialGaps defs p ++ g :: initialGapsFrom defs q (p.length + 1) (stop defs c) := by
  obtain ⟨p, c, q, rfl, hg, hpos, hgi⟩ := initialGapsFrom_getElem? l [] gi h
  rw [List.nil_append] at hg hpos
  refine ⟨p, c, q, rfl, hg, hpos, hgi, ?_⟩
  rw [hg, initialGaps_append, initialGapsFrom_cons, if_pos hpos]
  rfl

/-- the gap list of `simple` is at every step what `compute_initial_gaps` would find in the present layout -/
def GInv (defs : Defs) (l : List Nat) (gaps : List Gap) : Prop := gaps = initialGaps defs l

theorem GInv.init (defs : Defs) (l : List Nat) : GInv defs l (initialGaps defs l) := rfl

theorem GInv.ok {defs : Defs} {l : List Nat} {gaps : List Gap} {gi : Nat} {g : Gap} (hg : GInv defs l gaps)
    (hs : Sorted defs l) (hgi : gaps[gi]? = some g) : GapOk defs l g := by
  subst hg
  obtain ⟨p, c, q, rfl, rfl, hpos, _, _⟩ := initialGaps_getElem? hgi
  have hs' := List.pairwise_append.1 hs
  refine ⟨hpos, ?_, ?_, ?_⟩
  · rw [List.length_append, List.length_cons]; exact Nat.lt_add_of_pos_right (Nat.succ_pos _)
  · rw [List.take_left]; exact fun e he => stop_le_endOf hs'.1 he
  · rw [List.drop_left, List.forall_mem_cons]
    exact ⟨Nat.le_refl _, fun e he => Nat.le_trans (Nat.le_add_right _ _) ((List.pairwise_cons.1 hs'.2.1).1 e he)⟩

section
variable {defs : Defs} {l : List Nat} {gaps : List Gap} {id o : Nat}

/-- `id` is put into the gap `g = gaps[gi]`, `b` bytes behind its start, leaving `a` bytes before its stop; what remains
    of the gap on either side, if anything, stays a gap -/
theorem GInv.place {gi : Nat} {g : Gap} (hg : GInv defs l gaps) (hgi : gaps[gi]? = some g)
    (hid : id ∉ l) (hlt : id < defs.length) {b a dend : Nat} (hstart : g.start + b = o)
    (hdend : dend = o + sz defs id) (hstop : dend + a = g.stop) :
    GInv (setOffset defs id o) (l.take g.idx ++ id :: l.drop g.idx)
      (gaps.take gi ++ (if b > 0 then [⟨g.start, g.start + b, g.idx⟩] else []) ++
        (if a > 0 then [⟨dend, g.stop, g.idx + 1⟩] else []) ++ bumpIdx (gaps.drop (gi + 1))) := by
  subst hg
  obtain ⟨p, c, q, rfl, rfl, _, rfl, hsplit⟩ := initialGaps_getElem? hgi
  have hp : id ∉ p := fun h => hid (List.mem_append_left _ h)
  have hc : c ≠ id := fun e => hid (e ▸ List.mem_append_right _ List.mem_cons_self)
  have hq : id ∉ q := fun h => hid (List.mem_append_right _ (List.mem_cons_of_mem _ h))
  unfold GInv
  dsimp only at hstart hstop ⊢
  rw [hsplit, List.take_left, List.drop_length_add_append, List.drop_succ_cons, List.drop_zero]
  -- the gaps of `p ++ id :: c :: q`: those of `p`, what is found in front of `id` and of `c`, those of `q` one position on
  rw [List.take_left, List.drop_left, initialGaps_append, initialGapsFrom_cons, initialGapsFrom_cons,
    initialGapsFrom_succ _ q (p.length + 1)]
  -- in the new collection only `id` has moved, to `[o, dend)`
  rw [initialGaps_setOffset_notin defs o hp, initialGapsFrom_setOffset_notin defs o hq, endOf_setOffset_notin defs o hp,
    off_setOffset_self _ _ _ hlt, stop_setOffset_self _ _ _ hlt, off_setOffset_ne _ _ _ _ hc, stop_setOffset_ne _ _ _ _ hc,
    ← hdend, ← hstart, ← hstop]
  simp only [gt_iff_lt, Nat.lt_add_right_iff_pos, List.append_assoc]

theorem GInv.push (hg : GInv defs l gaps) (hid : id ∉ l) (hlt : id < defs.length) :
    GInv (setOffset defs id o) (l ++ [id])
      (if o > endOf defs l then gaps ++ [⟨endOf defs l, o, l.length⟩] else gaps) := by
  subst hg
  unfold GInv
  rw [initialGaps_append, initialGapsFrom_cons, initialGaps_setOffset_notin defs o hid, endOf_setOffset_notin defs o hid,
    off_setOffset_self _ _ _ hlt]
  split
  · rfl
  · exact (List.append_nil _).symm

end

end Truc
