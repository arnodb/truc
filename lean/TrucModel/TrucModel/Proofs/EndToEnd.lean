import TrucModel.Proofs.MachineWFProps
import TrucModel.Proofs.BuilderProps
import TrucModel.Proofs.StaticProps
/-
  From the builder to the machine: the `RecordSpec`s generated for a definition whose variants satisfy the
  layout and name invariants (`DefOk`; `Props/C04` supplies them for builder output) satisfy the hypotheses
  (`ModuleWF`) of the generated-code theorems (C04–C07).
-/
namespace Truc.Gen
open Truc Truc.Mach

/-- what the layout / builder theorems (C01, C02, C12) give about a definition, plus the naming and
    typing hypotheses of the generated-code theorems -/
structure DefOk (dr : String → Bool) (cap : Nat) (d : Definition) : Prop where
  vinv   : ∀ v ∈ d.variants, LInv d.defs v                                   -- C01, C02 (aligned, ordered, ids in range)
  names  : ∀ v ∈ d.variants, (v.map (nameOf d.defs)).Nodup                    -- C12
  inCap  : ∀ v ∈ d.variants, ∀ id ∈ v, stop d.defs id ≤ cap                   -- C02 (capacity)
  zstKey : ∀ v ∈ d.variants, ∀ a ∈ v, ∀ b ∈ v, a ≠ b → sz d.defs a = 0 → sz d.defs b = 0 → off d.defs a = off d.defs b →
             minTok (info d.defs a).ty ≠ minTok (info d.defs b).ty             -- zero-size fields at one address have different types
  noRecord : ∀ i ∈ d.defs, i.name ≠ "record"                                   -- naming hypothesis: the machine's struct literal (`retStruct`) takes the name `record` for the record handed back beside the fields
  pod    : ∀ i ∈ d.defs, i.uninit = true → dr (minTok i.ty) = false           -- only plain-old-data may stay uninitialised
  zstDr  : ∀ i ∈ d.defs, i.size = 0 → dr (minTok i.ty) = true                 -- restriction of the machine model (see `ModuleWF`): zero-size fields are taken to be droppable markers

theorem apart_mkD {dr : String → Bool} {cap : Nat} {d : Definition} (h : DefOk dr cap d) {v : List Nat} (hv : v ∈ d.variants)
    {a b : Nat} (ha : a ∈ v) (hb : b ∈ v) (hne : a ≠ b) : Apart (mkD d.defs a) (mkD d.defs b) := by
  have hdis := (h.vinv v hv).disjoint ha hb hne
  unfold stop off sz at hdis
  refine ⟨?_, ?_⟩
  · simp only [mkD]; exact hdis
  · intro ⟨h1, h2, h3⟩
    simp only [mkD] at h1 h2 h3
    by_cases hs : (info d.defs a).size = 0
    · exact h.zstKey v hv a ha b hb hne hs (h2.symm.trans hs) h1 h3
    · omega

theorem DefOk.wfData {dr : String → Bool} {cap : Nat} {d : Definition} (h : DefOk dr cap d) {v : List Nat} (hv : v ∈ d.variants) :
    WFData cap ((sortIds v).map (mkD d.defs)) := by
  have hperm := sortIds_perm v
  have hnd : (sortIds v).Nodup := hperm.nodup_iff.2 (h.vinv v hv).nodup
  refine ⟨?_, ?_, ?_⟩
  · exact (names_sortIds_perm d.defs v).nodup_iff.2 (h.names v hv)
  · rw [List.pairwise_map]
    refine List.Pairwise.imp_of_mem ?_ hnd
    intro a b ha hb hne
    exact apart_mkD h hv (hperm.mem_iff.1 ha) (hperm.mem_iff.1 hb) hne
  · intro x hx
    obtain ⟨id, hid, rfl⟩ := List.mem_map.1 hx
    have := h.inCap v hv id (hperm.mem_iff.1 hid)
    unfold stop off sz at this
    simpa [mkD] using this

/-- a field of one variant that is not in its difference to the other variant is a field of the other variant, and
    not in that one's difference (`f` injective: the carried-over fields of a conversion, seen from either side) -/
theorem carried_of_not_diff {f : Nat → D} (hf : ∀ {a b}, f a = f b → a = b) {l0 l1 : List Nat} {x : D}
    (hx : x ∈ l0.map f) (hn : x ∉ (l0.filter fun a => !l1.contains a).map f) :
    x ∈ l1.map f ∧ x ∉ (l1.filter fun a => !l0.contains a).map f := by
  obtain ⟨a, ha, rfl⟩ := List.mem_map.1 hx
  have ha1 : a ∈ l1 := Classical.byContradiction fun hc =>
    hn (List.mem_map_of_mem (List.mem_filter.2 ⟨ha, by simpa using hc⟩))
  refine ⟨List.mem_map_of_mem ha1, fun hp => ?_⟩
  obtain ⟨a', ha', heq⟩ := List.mem_map.1 hp
  obtain rfl := hf heq
  simpa [ha] using (List.mem_filter.1 ha').2

theorem specs_moduleWF {dr : String → Bool} {cap : Nat} {d : Definition} (h : DefOk dr cap d) : ModuleWF dr cap (specs d) := by
  have hrange : ∀ v ∈ d.variants, ∀ id ∈ sortIds v, info d.defs id ∈ d.defs :=
    fun v hv id hid =>
      List.mem_of_getElem? (getElem?_eq_some_info ((h.vinv v hv).inRange id ((sortIds_perm v).mem_iff.1 hid)))
  refine ⟨fun s hs => ?_, fun s hs x hx hun => ?_, fun k s0 s h0 h1 => ?_⟩
  · obtain ⟨k, v, hv, rfl⟩ := mem_specs.1 hs
    exact h.wfData (List.mem_of_getElem? hv)
  · obtain ⟨k, v, hv, rfl⟩ := mem_specs.1 hs
    obtain ⟨id, hid, rfl⟩ := List.mem_map.1 hx
    exact h.pod _ (hrange v (List.mem_of_getElem? hv) id hid) hun
  · rw [specs_getElem?, Option.map_eq_some_iff] at h0 h1
    obtain ⟨v0, hv0, rfl⟩ := h0
    obtain ⟨v1, hv1, rfl⟩ := h1
    have hm0 := List.mem_of_getElem? hv0
    have hm1 := List.mem_of_getElem? hv1
    simp only [Nat.succ_ne_zero, if_false, Nat.add_sub_cancel, hv0, Option.map_some]
    refine ⟨⟨h.wfData hm0, h.wfData hm1, List.filter_sublist.map _, List.filter_sublist.map _,
      fun _ => carried_of_not_diff (mkD_inj d.defs),
      fun _ => carried_of_not_diff (mkD_inj d.defs)⟩, fun hrec => ?_, fun p hp hsz => ?_⟩
    · obtain ⟨x, hx, hname⟩ := List.mem_map.1 hrec
      obtain ⟨a, ha, rfl⟩ := List.mem_map.1 hx
      exact h.noRecord _ (hrange v0 hm0 a (List.mem_filter.1 ha).1) hname
    · obtain ⟨a, ha, rfl⟩ := List.mem_map.1 hp
      exact h.zstDr _ (hrange v1 hm1 a (List.mem_filter.1 ha).1) hsz

end Truc.Gen
