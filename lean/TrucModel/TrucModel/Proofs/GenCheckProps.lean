import TrucModel.Model.GenCheck
import TrucModel.Proofs.ListFacts
/-
  The generated function bodies pass the move / mutability rules of `Model/GenCheck.lean`, for every variant
  whose field names do not collide with the template's own bindings. A body is followed statement by statement;
  what is known of a state is which names are usable, whether `data` may be written (`dataMut`), and that no
  field has been moved out of a binding yet (`fields = []`, true until the `write`s).
-/
namespace Truc.Gen

theorem checkBody_nil (c : CState) : checkBody c [] = some c := rfl

theorem checkBody_cons (c : CState) (s : Stmt) (rest : List Stmt) :
    checkBody c (s :: rest) = (checkStmt c s).bind (checkBody · rest) := by
  rw [checkBody]
  cases checkStmt c s <;> rfl

theorem checkBody_append (c : CState) (l1 l2 : List Stmt) :
    checkBody c (l1 ++ l2) = (checkBody c l1).bind (checkBody · l2) := by
  induction l1 generalizing c with
  | nil => rfl
  | cons s rest ih =>
    rw [List.cons_append, checkBody_cons, checkBody_cons]
    cases checkStmt c s with
    | none => rfl
    | some c' => exact ih c'

theorem checkBody_cons_some {c c' c'' : CState} {s : Stmt} {rest : List Stmt} (h : checkStmt c s = some c')
    (hr : checkBody c' rest = some c'') : checkBody c (s :: rest) = some c'' := by
  rw [checkBody_cons, h]
  exact hr

theorem checkBody_append_some {c c' c'' : CState} {l1 l2 : List Stmt} (h : checkBody c l1 = some c')
    (hr : checkBody c' l2 = some c'') : checkBody c (l1 ++ l2) = some c'' := by
  rw [checkBody_append, h]
  exact hr

/-- shadowing revives a moved name -/
theorem usable_bind {c : CState} {n x : String} {m : Bool} :
    (c.bind n m).usable x = true ↔ x = n ∨ c.usable x = true := by
  rw [← beq_iff_eq (a := x), ← Bool.or_eq_true, Bool.coe_iff_coe]
  unfold CState.usable CState.bind
  rw [List.lookup_cons]
  cases hb : x == n with
  | true => simp [eq_of_beq hb]
  | false => simp [ne_of_beq_false hb]

theorem usable_move {c : CState} {n x : String} : (c.move n).usable x = true ↔ x ≠ n ∧ c.usable x = true := by
  unfold CState.usable CState.move
  rw [List.contains_cons, Bool.not_or, Bool.and_left_comm, Bool.and_eq_true, Bool.not_eq_true', beq_eq_false_iff_ne]

theorem usable_params {names : List String} {x : String} : (params names).usable x = true ↔ x ∈ names := by
  unfold CState.usable params
  rw [Bool.and_eq_true, List.lookup_isSome_iff]
  exact ⟨fun ⟨⟨p, hp, e⟩, _⟩ => by obtain ⟨n, hn, rfl⟩ := List.mem_map.1 hp; exact eq_of_beq e ▸ hn,
    fun h => ⟨⟨(x, false), List.mem_map_of_mem h, beq_self_eq_true x⟩, rfl⟩⟩

theorem usable_fields {c : CState} {x : String} (h : c.usable x = true) (f : List (String × String)) :
    ({ c with fields := f } : CState).usable x = true := h

/-- the state after `let n = ..;` for each `n` of `ns` -/
def CState.bindAll (c : CState) (ns : List String) : CState := ns.foldl (fun c n => c.bind n false) c

theorem usable_bindAll {ns : List String} {c : CState} {x : String} :
    (c.bindAll ns).usable x = true ↔ x ∈ ns ∨ c.usable x = true := by
  induction ns generalizing c with
  | nil => exact ⟨.inr, fun h => h.resolve_left List.not_mem_nil⟩
  | cons n rest ih =>
    rw [CState.bindAll, List.foldl_cons, ← CState.bindAll, ih, usable_bind, List.mem_cons, or_left_comm, or_assoc]

/-- `data` is in scope, declared `mut` and not moved: what a `write` asks of the buffer -/
def CState.dataMut (c : CState) : Bool := c.bound.lookup "data" == some true && !c.moved.contains "data"

theorem dataMut_bind_data (c : CState) (m : Bool) : (c.bind "data" m).dataMut = m := by
  unfold CState.dataMut CState.bind
  rw [List.lookup_cons]
  simp

theorem fields_bind {c : CState} (h : c.fields = []) (n : String) (m : Bool) : (c.bind n m).fields = [] := by
  rw [CState.bind, h]
  rfl

theorem fields_bindAll {c : CState} (h : c.fields = []) (ns : List String) : (c.bindAll ns).fields = [] := by
  induction ns generalizing c with
  | nil => exact h
  | cons n rest ih => exact ih (fields_bind h n false)

theorem checkStmt_letBuf (c : CState) (m : Bool) : checkStmt c (.letBuf m) = some (c.bind "data" m) := rfl

theorem checkStmt_safeFrom {c : CState} {a : String} (hu : c.usable a = true) (hf : c.fields = []) (b n : String)
    (t : Option String) : checkStmt c (.safeFrom b n t a) = some ((c.move a).bind b false) :=
  if_pos (by rw [hu, hf]; rfl)

theorem checkStmt_manuallyDrop {c : CState} (hu : c.usable "from" = true) (hf : c.fields = []) :
    checkStmt c .manuallyDrop = some ((c.move "from").bind "manually_drop" false) :=
  if_pos (by rw [hu, hf]; rfl)

theorem checkStmt_copyBuf {c : CState} (hu : c.usable "manually_drop" = true) (m : Bool) :
    checkStmt c (.copyBuf m) = some (c.bind "data" m) := if_pos hu

theorem checkStmt_retSelfData {c : CState} (hu : c.usable "data" = true) :
    checkStmt c .retSelfData = some (c.move "data") := if_pos hu

theorem checkStmt_letRecord {c : CState} (hu : c.usable "data" = true) (n : String) :
    checkStmt c (.letRecord n) = some ((c.move "data").bind "record" false) := if_pos hu

theorem checkStmt_retStruct {c : CState} {fs : List String} (h : fs.all c.usable = true) (n : String) :
    checkStmt c (.retStruct n fs) = some c := if_pos h

theorem checkStmt_forgetSelf {c : CState} (hu : c.usable "self" = true) :
    checkStmt c .forgetSelf = some (c.move "self") := if_pos hu

/-- a run of `let <pre><name> = recv.data.read(..)` statements passes as long as `recv` is usable -/
theorem reads_ok (pre recv : String) (ds : List D) (c : CState) (hu : c.usable recv = true) :
    checkBody c (ds.map fun d => Stmt.readLet (pre ++ d.name) d recv) = some (c.bindAll (ds.map (pre ++ ·.name))) := by
  induction ds generalizing c with
  | nil => rfl
  | cons d rest ih => exact checkBody_cons_some (if_pos hu) (ih _ (usable_bind.2 (.inr hu)))

/-- `write`s from one binding pass if no two of them move the same field out of it; only the moved-out fields change -/
theorem writes_ok (src : String) (ds : List D) (c : CState) (h : ds ≠ [] → c.dataMut = true ∧ c.usable src = true)
    (hnd : (ds.map (·.name)).Nodup) (hf : ∀ d ∈ ds, (src, d.name) ∉ c.fields) :
    ∃ f, checkBody c (ds.map fun d => Stmt.write d src) = some { c with fields := f } := by
  induction ds generalizing c with
  | nil => exact ⟨c.fields, rfl⟩
  | cons d rest ih =>
    obtain ⟨hdm, hu⟩ := h (List.cons_ne_nil _ _)
    rw [List.map_cons, List.nodup_cons] at hnd
    have hc : c.fields.contains (src, d.name) = false := by simpa using hf d List.mem_cons_self
    have step : checkStmt c (.write d src) = some { c with fields := (src, d.name) :: c.fields } :=
      if_pos (by rw [← CState.dataMut, hdm, hu, hc]; rfl)
    obtain ⟨f, hf⟩ := ih { c with fields := (src, d.name) :: c.fields } (fun _ => ⟨hdm, hu⟩) hnd.2 fun x hx hmem => by
      rcases List.mem_cons.1 hmem with heq | hmem
      · exact hnd.1 ((Prod.mk.inj heq).2 ▸ List.mem_map_of_mem hx)
      · exact hf x (List.mem_cons_of_mem _ hx) hmem
    exact ⟨f, checkBody_cons_some step hf⟩

/-- what the two constructors and the second half of a conversion share: `data` just bound, the `write`s from one
    source, and a return that finds usable what was usable before them -/
theorem writes_ret_ok {c0 c : CState} {front ret : List Stmt} {src : String} {ws : List D} {m : Bool}
    (hfront : checkBody c0 front = some (c.bind "data" m)) (hfields : c.fields = [])
    (hw : ws ≠ [] → m = true ∧ c.usable src = true) (hnd : (ws.map (·.name)).Nodup)
    (hret : ∀ c', (∀ x, (c.bind "data" m).usable x = true → c'.usable x = true) → (checkBody c' ret).isSome = true) :
    (checkBody c0 (front ++ ws.map (fun d => Stmt.write d src) ++ ret)).isSome = true := by
  obtain ⟨f, hf⟩ := writes_ok src ws (c.bind "data" m)
    (fun hne => ⟨(dataMut_bind_data ..).trans (hw hne).1, usable_bind.2 (.inr (hw hne).2)⟩) hnd
    (fun _ _ => fields_bind hfields .. ▸ List.not_mem_nil)
  rw [checkBody_append, checkBody_append_some hfront hf]
  exact hret _ fun _ hx => usable_fields hx f

theorem retSelfData_ok {c : CState} (hu : c.usable "data" = true) : (checkBody c [.retSelfData]).isSome = true :=
  Option.isSome_of_eq_some (checkBody_cons_some (checkStmt_retSelfData hu) (checkBody_nil _))

theorem ctorNew_checks (s : Spec) (hnd : (s.data.map (·.name)).Nodup) :
    (checkBody (params [if s.data.isEmpty then "_from" else "from"]) (ctorNew s).body).isSome = true :=
  writes_ret_ok (c := params _) (checkBody_cons_some (checkStmt_letBuf ..) (checkBody_nil _)) rfl
    (fun hne => by
      have he := List.isEmpty_eq_false_iff.2 hne
      exact ⟨by rw [he]; rfl, usable_params.2 (by rw [he]; exact List.mem_cons_self)⟩)
    hnd fun _ h => retSelfData_ok (h _ (usable_bind.2 (.inl rfl)))

theorem ctorNewUninit_checks (s : Spec) (hnd : (s.data.map (·.name)).Nodup) :
    (checkBody (params ["from"]) (ctorNewUninit s).body).isSome = true :=
  -- the helper takes `from` and is bound to `from` again only if some field is written from it
  writes_ret_ok (checkBody_cons_some (checkStmt_safeFrom (usable_params.2 List.mem_cons_self) rfl ..)
      (checkBody_cons_some (checkStmt_letBuf ..) (checkBody_nil _))) rfl
    (fun hne => by
      have ha := (any_or_filter_nil _ _).resolve_right hne
      exact ⟨ha, by rw [ha]; exact usable_bind.2 (.inl rfl)⟩)
    (hnd.sublist (List.filter_sublist.map _)) fun _ h => retSelfData_ok (h _ (usable_bind.2 (.inl rfl)))

theorem unpack_checks (s : Spec) (hself : ∀ d ∈ s.data, d.name ≠ "self") :
    (checkBody (params ["self"]) (unpackFn s).body).isSome = true := by
  have hr := reads_ok "" "self" s.data (params ["self"]) (usable_params.2 List.mem_cons_self)
  simp only [String.empty_append] at hr
  refine Option.isSome_of_eq_some <| checkBody_append_some hr <|
    checkBody_cons_some (checkStmt_forgetSelf (usable_bindAll.2 (.inr (usable_params.2 List.mem_cons_self))))
      (checkBody_cons_some (checkStmt_retStruct ?_ _) (checkBody_nil _))
  rw [List.all_eq_true]
  intro n hn
  obtain ⟨d, hd, rfl⟩ := List.mem_map.1 hn
  exact usable_move.2 ⟨hself d hd, usable_bindAll.2 (.inl hn)⟩

theorem drop_checks (s : Spec) : (checkBody (params ["self"]) (dropFn s).body).isSome = true :=
  Option.isSome_of_eq_some (reads_ok "_" "self" s.data _ (usable_params.2 List.mem_cons_self))

/-- a conversion from `let manually_drop = ..` on, reached by `front` -/
theorem conv_tail {c0 c : CState} {front : List Stmt} {ws minus : List D} {m o : Bool} {cap out : String}
    (hfront : checkBody c0 front = some c) (hfrom : c.usable "from" = true) (hfields : c.fields = [])
    (hw : ws ≠ [] → m = true ∧ c.usable "plus" = true) (hnd : (ws.map (·.name)).Nodup)
    (hminus : o = true → ∀ d ∈ minus, c.usable d.name = true ∧ d.name ≠ "from" ∧ d.name ≠ "data") :
    (checkBody c0 (front ++ [Stmt.manuallyDrop, Stmt.copyBuf m] ++ ws.map (fun d => Stmt.write d "plus") ++
      if o then [Stmt.letRecord cap, Stmt.retStruct out ("record" :: minus.map (·.name))] else [Stmt.retSelfData])).isSome =
      true := by
  have keep : ∀ {x}, c.usable x = true → x ≠ "from" → ((c.move "from").bind "manually_drop" false).usable x = true :=
    fun h hne => usable_bind.2 (.inr (usable_move.2 ⟨hne, h⟩))
  refine writes_ret_ok (c := (c.move "from").bind "manually_drop" false)
    (checkBody_append_some hfront (checkBody_cons_some (checkStmt_manuallyDrop hfrom hfields)
      (checkBody_cons_some (checkStmt_copyBuf (usable_bind.2 (.inl rfl)) m) (checkBody_nil _))))
    (fields_bind (c := c.move "from") hfields ..) (fun hne => ⟨(hw hne).1, keep (hw hne).2 (by simp)⟩) hnd fun c' h => ?_
  have hdata := h _ (usable_bind.2 (.inl rfl))
  cases o with
  | false => exact retSelfData_ok hdata
  | true =>
    refine Option.isSome_of_eq_some <| checkBody_cons_some (checkStmt_letRecord hdata cap)
      (checkBody_cons_some (checkStmt_retStruct ?_ out) (checkBody_nil _))
    rw [List.all_cons, usable_bind.2 (.inl rfl), Bool.true_and, List.all_eq_true]
    intro n hn
    obtain ⟨d, hd, rfl⟩ := List.mem_map.1 hn
    obtain ⟨hu, h1, h2⟩ := hminus rfl d hd
    exact usable_bind.2 (.inr (usable_move.2 ⟨h2, h _ (usable_bind.2 (.inr (keep hu h1)))⟩))

/-- the first half of a conversion: the removed fields are read out of `from` into names `pre ++ name` -/
theorem conv_reads (P pre : String) (minus : List D) :
    ∃ c, checkBody (params ["from", P]) (minus.map fun d => .readLet (pre ++ d.name) d "from") = some c ∧
      c.usable "from" = true ∧ c.fields = [] ∧ (P = "plus" → c.usable "plus" = true) ∧
      (pre = "" → ∀ d ∈ minus, c.usable d.name = true) := by
  have hfrom : (params ["from", P]).usable "from" = true := usable_params.2 List.mem_cons_self
  refine ⟨_, reads_ok pre "from" minus _ hfrom, usable_bindAll.2 (.inr hfrom), fields_bindAll rfl _, ?_, ?_⟩
  · rintro rfl
    exact usable_bindAll.2 (.inr (usable_params.2 (List.mem_cons_of_mem _ List.mem_cons_self)))
  · rintro rfl d hd
    exact usable_bindAll.2 (.inl (List.mem_map.2 ⟨d, hd, String.empty_append⟩))

theorem conv_checks (s : Spec) (u o : Bool) (hnd : (s.plus.map (·.name)).Nodup)
    (hres : ∀ d ∈ s.minus, d.name ≠ "plus" ∧ d.name ≠ "from" ∧ d.name ≠ "data") :
    (checkBody (params ["from", if u || !s.plus.isEmpty then "plus" else "_plus"]) (convFn s u o).body).isSome = true := by
  obtain ⟨c, hr, hfrom, hfields, hplus, hnames⟩ :=
    conv_reads (if u || !s.plus.isEmpty then "plus" else "_plus") (if o then "" else "_") s.minus
  have hnames : o = true → ∀ d ∈ s.minus, c.usable d.name = true := fun ho => hnames (by rw [ho]; rfl)
  have hwnd : ((s.plus.filter fun d => !u || !d.uninit).map (·.name)).Nodup := hnd.sublist (List.filter_sublist.map _)
  cases u with
  | false =>
    -- nothing between the reads and `manually_drop`; the second parameter is `plus` if there is a field to write
    refine conv_tail (checkBody_append_some hr (checkBody_nil _)) hfrom hfields (fun hne => ?_) hwnd
      fun ho d hd => ⟨hnames ho d hd, (hres d hd).2⟩
    have he : s.plus.isEmpty = false := List.isEmpty_eq_false_iff.2 fun h => hne (by rw [h]; rfl)
    exact ⟨by rw [he]; rfl, hplus (by rw [he]; rfl)⟩
  | true =>
    -- the `Copy` helper takes `plus`, and is bound to `plus` again if there is a field to write
    refine conv_tail (checkBody_append_some hr (checkBody_cons_some (checkStmt_safeFrom (hplus rfl) hfields ..) (checkBody_nil _)))
      (usable_bind.2 (.inr (usable_move.2 ⟨by simp, hfrom⟩))) (fields_bind (c := c.move "plus") hfields ..)
      (fun hne => ?_) hwnd
      fun ho d hd => ⟨usable_bind.2 (.inr (usable_move.2 ⟨(hres d hd).1, hnames ho d hd⟩)), (hres d hd).2⟩
    have ha : (s.plus.any fun d => !d.uninit) = true := (any_or_filter_nil _ _).resolve_right hne
    exact ⟨by rw [ha]; rfl, by rw [ha]; exact usable_bind.2 (.inl rfl)⟩

theorem variantChecks_ok (s : Spec) (hd : (s.data.map (·.name)).Nodup) (hp : s.hasPrev = true → (s.plus.map (·.name)).Nodup)
    (hself : ∀ d ∈ s.data, d.name ≠ "self")
    (hres : s.hasPrev = true → ∀ d ∈ s.minus, d.name ≠ "plus" ∧ d.name ≠ "from" ∧ d.name ≠ "data") : variantChecks s = true := by
  unfold variantChecks variantBodies
  rw [List.all_append]
  simp only [List.all_cons, List.all_nil, ctorNew_checks s hd, ctorNewUninit_checks s hd, unpack_checks s hself, drop_checks s,
    Bool.and_self, Bool.true_and]
  cases hprev : s.hasPrev with
  | false => rfl
  | true =>
    simp only [if_true, List.map_cons, List.map_nil, List.all_cons, List.all_nil, conv_checks s _ _ (hp hprev) (hres hprev),
      Bool.and_self]

end Truc.Gen
