import TrucModel.Proofs.Layout
/-
  What one variant close must achieve (`CloseOk`), and the proofs for `append_data`,
  `append_data_reverse` and `basic`.
-/
namespace Truc

/-- what the builder guarantees about the additions handed to a strategy -/
structure Fresh (defs : Defs) (base add : List Nat) : Prop where
  notin    : ∀ a ∈ add, a ∉ base
  inRange  : ∀ a ∈ add, a < defs.length
  nodup    : add.Nodup
  alignPos : ∀ a ∈ add, 0 < al defs a

/-- the structural half: membership, and the collection changes only at the offsets of the additions -/
structure CloseFrame (defs : Defs) (base add : List Nat) (defs' : Defs) (l' : List Nat) : Prop where
  perm  : l'.Perm (base ++ add)
  len   : defs'.length = defs.length
  frame : ∀ id, id ∉ add → info defs' id = info defs id
  shape : ∀ id, sameShape (info defs' id) (info defs id)

structure CloseOk (defs : Defs) (base add : List Nat) (defs' : Defs) (l' : List Nat) : Prop
    extends CloseFrame defs base add defs' l' where
  inv : LInv defs' l'

theorem CloseOk.nil {defs : Defs} {l : List Nat} (h : LInv defs l) : CloseOk defs l [] defs l :=
  { perm := by rw [List.append_nil], len := rfl, frame := fun _ _ => rfl, shape := fun _ => sameShape_refl _, inv := h }

/-- composing "place `id` (anywhere in the list)" with the rest of the loop -/
theorem CloseOk.cons {defs : Defs} {l : List Nat} {id o : Nat} {rest l1 : List Nat} {defs' : Defs} {l' : List Nat}
    (hperm1 : l1.Perm (id :: l))
    (h : CloseOk (setOffset defs id o) l1 rest defs' l') : CloseOk defs l (id :: rest) defs' l' := by
  refine ⟨⟨?_, ?_, ?_, ?_⟩, h.inv⟩
  · exact h.perm.trans ((List.Perm.append_right rest hperm1).trans List.perm_middle.symm)
  · rw [h.len, setOffset_length]
  · intro j hj
    rw [h.frame j (fun e => hj (List.mem_cons_of_mem _ e)),
      info_setOffset_ne defs id o j (List.ne_of_not_mem_cons hj)]
  · intro j
    exact sameShape_trans (h.shape j) (sameShape_setOffset defs id o j)

theorem CloseOk.of_perm {defs : Defs} {l add add' : List Nat} {defs' : Defs} {l' : List Nat}
    (h : CloseOk defs l add' defs' l') (hp : add'.Perm add) : CloseOk defs l add defs' l' :=
  { inv := h.inv
    perm := h.perm.trans (List.Perm.append_left l hp)
    len := h.len
    frame := fun id hid => h.frame id (fun hm => hid (hp.mem_iff.1 hm))
    shape := h.shape }

theorem Fresh.head {defs : Defs} {l : List Nat} {id : Nat} {rest : List Nat} (hf : Fresh defs l (id :: rest)) :
    id ∉ l ∧ id < defs.length ∧ 0 < al defs id :=
  ⟨hf.notin id List.mem_cons_self, hf.inRange id List.mem_cons_self, hf.alignPos id List.mem_cons_self⟩

theorem Fresh.tail {defs : Defs} {l : List Nat} {id : Nat} {rest l1 : List Nat} (o : Nat)
    (hf : Fresh defs l (id :: rest)) (hperm1 : l1.Perm (id :: l)) :
    Fresh (setOffset defs id o) l1 rest := by
  have hnd := List.nodup_cons.1 hf.nodup
  refine ⟨?_, ?_, hnd.2, ?_⟩
  · intro a ha hin
    rw [hperm1.mem_iff] at hin
    rcases List.mem_cons.1 hin with rfl | hin
    · exact hnd.1 ha
    · exact hf.notin a (List.mem_cons_of_mem _ ha) hin
  · intro a ha; rw [setOffset_length]; exact hf.inRange a (List.mem_cons_of_mem _ ha)
  · intro a ha; rw [al_setOffset]; exact hf.alignPos a (List.mem_cons_of_mem _ ha)

theorem Fresh.of_perm {defs : Defs} {base add add' : List Nat} (hf : Fresh defs base add) (hp : add'.Perm add) :
    Fresh defs base add' :=
  ⟨fun a ha => hf.notin a (hp.mem_iff.1 ha), fun a ha => hf.inRange a (hp.mem_iff.1 ha),
   hp.nodup_iff.2 hf.nodup, fun a ha => hf.alignPos a (hp.mem_iff.1 ha)⟩

theorem Fresh.reverse {defs : Defs} {l add : List Nat} (hf : Fresh defs l add) : Fresh defs l add.reverse :=
  hf.of_perm (List.reverse_perm add)

theorem pushAll_ok (add : List Nat) : ∀ (defs : Defs) (l : List Nat), LInv defs l → Fresh defs l add →
    CloseOk defs l add (pushAll defs l add).1 (pushAll defs l add).2 := by
  induction add with
  | nil => intro defs l h _; exact .nil h
  | cons id rest ih =>
    intro defs l h hf
    obtain ⟨hid, hlt, hpos⟩ := hf.head
    have hperm := List.perm_append_singleton id l
    exact .cons hperm (ih _ _ (h.push hid hlt (le_alignUp _ _ hpos) (alignUp_dvd _ _)) (hf.tail _ hperm))

/-- the loop invariant of `basic`'s scan: the data caret is in range and everything listed before it ends at or before the byte caret -/
def BasicJ (defs : Defs) (data : List Nat) (dc bc : Nat) : Prop :=
  dc ≤ data.length ∧ ∀ e ∈ data.take dc, stop defs e ≤ bc

theorem BasicJ.succ {defs : Defs} {data : List Nat} {dc bc : Nat} (hlt : dc < data.length)
    (h : ∀ e ∈ data.take dc, stop defs e ≤ bc) (hc : stop defs data[dc] ≤ bc) : BasicJ defs data (dc + 1) bc := by
  refine ⟨hlt, ?_⟩
  rw [List.take_succ_eq_append_getElem hlt, List.forall_mem_append, List.forall_mem_singleton]
  exact ⟨h, hc⟩

theorem basicScan_spec (defs : Defs) (data : List Nat) (dsz dal : Nat) (hpos : 0 < dal) (hs : Sorted defs data) :
    ∀ (dc bc : Nat), BasicJ defs data dc bc →
      let r := basicScan defs data dsz dal dc bc
      BasicJ defs data r.1 r.2 ∧
      (∀ e ∈ data.drop r.1, alignUp r.2 dal + dsz ≤ off defs e) := by
  intro dc bc
  fun_induction basicScan defs data dsz dal dc bc with
  | case1 dc hlt c ih =>
    intro hJ
    exact ih (.succ hlt (fun e he => Nat.le_trans (hJ.2 e he) (Nat.le_add_right _ _)) (Nat.le_refl _))
  | case2 dc bc hlt c hne bc' hfit =>
    intro hJ
    refine ⟨⟨hJ.1, fun e he => Nat.le_trans (hJ.2 e he) (le_alignUp bc dal hpos)⟩, ?_⟩
    show ∀ e ∈ data.drop dc, alignUp bc' dal + dsz ≤ off defs e
    rw [alignUp_of_dvd bc' dal hpos (alignUp_dvd bc dal), List.drop_eq_getElem_cons hlt, List.forall_mem_cons]
    refine ⟨hfit, fun e he => ?_⟩
    -- `e` is listed behind `c`, and `c` starts behind the place found
    have hc : c ∈ data.take (dc + 1) := List.mem_take_iff_getElem.2 ⟨dc, Nat.lt_min.2 ⟨Nat.lt_succ_self _, hlt⟩, rfl⟩
    exact Nat.le_trans hfit (Nat.le_trans (Nat.le_add_right _ _) (hs.rel_of_mem_take_of_mem_drop hc he))
  | case3 dc bc hlt c hne bc' hnofit ih =>
    intro hJ
    have hc : c ∈ data.drop dc := List.drop_eq_getElem_cons hlt ▸ List.mem_cons_self
    exact ih (.succ hlt (fun e he => Nat.le_trans (hs.rel_of_mem_take_of_mem_drop he hc)
      (Nat.le_add_right _ _)) (Nat.le_refl _))
  | case4 dc bc hge =>
    intro hJ
    refine ⟨hJ, ?_⟩
    rw [List.drop_eq_nil_of_le (Nat.le_of_not_lt hge)]
    exact List.forall_mem_nil _

theorem basicLoop_ok (add : List Nat) : ∀ (defs : Defs) (data : List Nat) (dc bc : Nat),
    LInv defs data → Fresh defs data add → BasicJ defs data dc bc →
    ∃ defs' l', basicLoop defs data dc bc add = some (defs', l') ∧ CloseOk defs data add defs' l' := by
  induction add with
  | nil => intro defs data dc bc h _ _; exact ⟨defs, data, rfl, .nil h⟩
  | cons id rest ih =>
    intro defs data dc bc h hf hJ
    obtain ⟨hid, hlt, hpos⟩ := hf.head
    have hscan := basicScan_spec defs data (sz defs id) (al defs id) hpos h.sorted dc bc hJ
    unfold basicLoop
    generalize basicScan defs data (sz defs id) (al defs id) dc bc = r at hscan
    obtain ⟨dc', bc'⟩ := r
    obtain ⟨⟨hdc, hbefore⟩, hafter⟩ := hscan
    dsimp only at hdc hbefore hafter ⊢
    rw [insertAt?_of_le hdc]
    have hb' : ∀ e ∈ data.take dc', stop defs e ≤ alignUp bc' (al defs id) := fun e he =>
      Nat.le_trans (hbefore e he) (le_alignUp _ _ hpos)
    have hperm := perm_insert data dc' id
    -- the carets persist across additions: the invariant holds again at the same list position, in front of the datum
    -- just inserted, with the byte caret at that datum's start
    have hJ1 : BasicJ (setOffset defs id (alignUp bc' (al defs id))) (data.take dc' ++ id :: data.drop dc') dc'
        (alignUp bc' (al defs id)) := by
      refine ⟨by rw [List.length_append, List.length_take_of_le hdc]; exact Nat.le_add_right _ _, ?_⟩
      rw [List.take_left' (List.length_take_of_le hdc)]
      intro e he
      rw [stop_setOffset_ne _ _ _ _ (ne_of_mem_of_not_mem (List.mem_of_mem_take he) hid)]
      exact hb' e he
    obtain ⟨defs', l', heq, hok⟩ :=
      ih _ _ _ _ (h.insert hid hlt hb' hafter (alignUp_dvd _ _)) (hf.tail _ hperm) hJ1
    exact ⟨defs', l', heq, .cons hperm hok⟩

end Truc
