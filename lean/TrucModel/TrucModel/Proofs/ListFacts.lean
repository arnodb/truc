/- Facts about lists that are not in core Lean and belong to no particular part of the model. -/
namespace Truc

theorem pairwise_mem_cases {α : Type} {R : α → α → Prop} {l : List α} (h : l.Pairwise R) {a b : α}
    (ha : a ∈ l) (hb : b ∈ l) (hne : a ≠ b) : R a b ∨ R b a :=
  List.Pairwise.forall_of_forall_of_flip (R := fun a b => a ≠ b → R a b ∨ R b a)
    (fun _ _ hne => absurd rfl hne) (h.imp fun hab _ => Or.inl hab) (h.imp fun hab _ => Or.inr hab) ha hb hne

theorem inj_of_nodup_map {α β : Type} [DecidableEq α] {f : α → β} {l : List α} (h : (l.map f).Nodup) {a b : α}
    (ha : a ∈ l) (hb : b ∈ l) (e : f a = f b) : a = b :=
  Decidable.byContradiction fun hne =>
    (pairwise_mem_cases (List.pairwise_map.1 h) ha hb hne).elim (fun h => h e) (fun h => h e.symm)

theorem nodup_map_of_inj_on {α β : Type} {f : α → β} {l : List α} (h : l.Nodup)
    (hinj : ∀ a ∈ l, ∀ b ∈ l, f a = f b → a = b) : (l.map f).Nodup :=
  List.pairwise_map.2 (h.imp_of_mem fun ha hb hne e => hne (hinj _ ha _ hb e))

theorem any_or_filter_nil {α : Type} (l : List α) (p : α → Bool) : l.any p = true ∨ l.filter p = [] :=
  (Bool.eq_false_or_eq_true (l.any p)).imp_right fun h => List.filter_eq_nil_iff.2 (List.any_eq_false.1 h)

theorem filter_cons_eq_append {α : Type} (p : α → Bool) (a : α) (l : List α) :
    (a :: l).filter p = [a].filter p ++ l.filter p :=
  List.filter_append [a] l

theorem mem_cons_of_mem_ite_singleton {α : Type} {c : Prop} [Decidable c] {a x : α} {l : List α}
    (h : x ∈ if c then [a] else a :: l) : x ∈ a :: l := by
  split at h
  · exact List.mem_singleton.1 h ▸ List.mem_cons_self
  · exact h

theorem getLast?_getD_mem_or_nil {α : Type} (vs : List (List α)) :
    (vs.getLast?).getD [] ∈ vs ∨ (vs.getLast?).getD [] = [] := by
  cases h : vs.getLast? with
  | none => exact .inr rfl
  | some v => exact .inl (List.mem_of_getLast? h)

theorem ite_cons_eq_append {α : Type} {c : Prop} [Decidable c] (x : α) (t : List α) :
    (if c then x :: t else t) = (if c then [x] else []) ++ t := by
  split <;> rfl

/-- core states this for `max?`, which is this fold by definition -/
theorem foldl_max_spec (a : Nat) (l : List Nat) : l.foldl max a ∈ a :: l ∧ ∀ b ∈ a :: l, b ≤ l.foldl max a :=
  List.max?_eq_some_iff.1 List.max?_cons'

theorem forall_mem_zip_tail {α : Type} (l : List α) (Q : α × α → Prop) :
    (∀ p ∈ l.zip l.tail, Q p) ↔ ∀ k a b, l[k]? = some a → l[k + 1]? = some b → Q (a, b) := by
  simp only [Prod.forall, List.mem_iff_getElem?, List.getElem?_zip_eq_some, List.getElem?_tail, forall_exists_index, and_imp]
  exact ⟨fun h k a b => h a b k, fun h a b k => h k a b⟩

end Truc
