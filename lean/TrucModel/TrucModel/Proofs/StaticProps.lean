import TrucModel.Model.Static
/-
  What `generate()` emits. Namespace `Gen`: the generated data (`sortIds`, `mkD`), the `RecordSpec`s by index
  (`specs_getElem?`, `mem_specs`), which const assertions are emitted, the `repr(align)` rule
  `recLayout`. Namespace `Static`: the compiler's rules on that module (`accepts_iff`).
-/
namespace Truc.Gen

theorem insertSorted_perm (x : Nat) (l : List Nat) : (insertSorted x l).Perm (x :: l) := by
  fun_induction insertSorted x l with
  | case1 => exact .refl _
  | case2 => exact .refl _
  | case3 y ys _ ih => exact (ih.cons y).trans (.swap x y ys)

theorem sortIds_perm (l : List Nat) : (sortIds l).Perm l := by
  induction l with
  | nil => exact .refl _
  | cons x xs ih => exact (insertSorted_perm x _).trans (ih.cons x)

theorem mem_insertSorted {x y : Nat} {l : List Nat} : y ∈ insertSorted x l ↔ y = x ∨ y ∈ l :=
  (insertSorted_perm x l).mem_iff.trans List.mem_cons

theorem mem_sortIds {y : Nat} {l : List Nat} : y ∈ sortIds l ↔ y ∈ l := (sortIds_perm l).mem_iff

theorem mkD_inj (defs : Defs) {a b : Nat} (h : mkD defs a = mkD defs b) : a = b := congrArg D.id h

/-- what holds of `""` (the name of `Info.dummy`, which `info` falls back to) and of every name of the collection
    holds of the name of every generated datum -/
theorem mkD_name_rec {P : String → Prop} {defs : Defs} (h0 : P "") (h : ∀ i ∈ defs, P i.name) (id : Nat) :
    P (mkD defs id).name := by
  show P (info defs id).name
  unfold info
  cases hg : defs[id]? with
  | none => exact h0
  | some i => exact h i (List.mem_of_getElem? hg)

theorem names_sortIds_perm (defs : Defs) (v : List Nat) :
    (((sortIds v).map (mkD defs)).map (·.name)).Perm (v.map fun id => (info defs id).name) := by
  rw [List.map_map]
  exact (sortIds_perm v).map _

/-- the `RecordSpec` number `k` with alignment `al`, of a variant whose sorted data are `cur` and whose
    predecessor's, if it has one, are `prev`: one round of `specs.go` -/
def specOf (defs : Defs) (al k : Nat) (prev : Option (List Nat)) (cur : List Nat) : Spec where
  vid := k
  align := al
  data := cur.map (mkD defs)
  minus := (match prev with | some p => p.filter (fun x => !cur.contains x) | none => []).map (mkD defs)
  plus := (match prev with | some p => cur.filter (fun x => !p.contains x) | none => cur).map (mkD defs)
  hasPrev := prev.isSome
  prevVid := k - 1

theorem specOf_plus_sublist (defs : Defs) (al k : Nat) (prev : Option (List Nat)) (cur : List Nat) :
    (specOf defs al k prev cur).plus.Sublist (specOf defs al k prev cur).data := by
  cases prev with
  | none => exact .refl _
  | some p => exact List.filter_sublist.map _

theorem specs_go_cons (d : Definition) (al : Nat) (v : List Nat) (vs : List (List Nat)) (k : Nat) (prev : Option (List Nat)) :
    specs.go d al (v :: vs) k prev = specOf d.defs al k prev (sortIds v) :: specs.go d al vs (k + 1) (some (sortIds v)) := by
  cases prev <;> rfl

theorem specs_go_getElem? (d : Definition) (al : Nat) : ∀ (vs : List (List Nat)) (k0 : Nat) (prev : Option (List Nat)) (k : Nat),
    (specs.go d al vs k0 prev)[k]? = vs[k]?.map fun v =>
      specOf d.defs al (k0 + k) (if k = 0 then prev else vs[k - 1]?.map sortIds) (sortIds v) := by
  intro vs
  induction vs with
  | nil => intro k0 prev k; rfl
  | cons v0 rest ih =>
    intro k0 prev k
    rw [specs_go_cons]
    cases k with
    | zero => rfl
    | succ k =>
      rw [List.getElem?_cons_succ, List.getElem?_cons_succ, ih, Nat.add_right_comm, Nat.add_assoc k0 k 1]
      cases k <;> rfl

theorem specs_getElem? (d : Definition) (k : Nat) :
    (specs d)[k]? = d.variants[k]?.map fun v =>
      specOf d.defs d.maxTypeAlign k (if k = 0 then none else d.variants[k - 1]?.map sortIds) (sortIds v) :=
  (specs_go_getElem? d _ d.variants 0 none k).trans (by rw [Nat.zero_add])

theorem mem_specs {d : Definition} {s : Spec} : s ∈ specs d ↔ ∃ k v, d.variants[k]? = some v ∧
    specOf d.defs d.maxTypeAlign k (if k = 0 then none else d.variants[k - 1]?.map sortIds) (sortIds v) = s := by
  simp only [List.mem_iff_getElem?, specs_getElem?, Option.map_eq_some_iff]

theorem specs_align (d : Definition) : ∀ s ∈ specs d, s.align = d.maxTypeAlign := by
  intro s hs
  obtain ⟨k, v, _, rfl⟩ := mem_specs.1 hs
  rfl

theorem specs_data (d : Definition) : ∀ v ∈ d.variants, ∀ id ∈ v, ∃ s ∈ specs d, mkD d.defs id ∈ s.data := by
  intro v hv id hid
  obtain ⟨k, hk⟩ := List.mem_iff_getElem?.1 hv
  exact ⟨_, mem_specs.2 ⟨k, v, hk, rfl⟩, List.mem_map_of_mem (mem_sortIds.2 hid)⟩

theorem specs_plus (d : Definition) : ∀ v ∈ d.variants, ∀ id ∈ v, ∃ s ∈ specs d, mkD d.defs id ∈ s.plus := by
  intro v hv id hid
  obtain ⟨k, hk⟩ := List.mem_iff_getElem?.1 hv
  -- the first spec that contains the datum adds it: if the variant before has it too, look there
  induction k generalizing v with
  | zero => exact ⟨_, mem_specs.2 ⟨0, v, hk, rfl⟩, List.mem_map_of_mem (mem_sortIds.2 hid)⟩
  | succ k ih =>
    obtain ⟨w, hw⟩ : ∃ w, d.variants[k]? = some w :=
      ⟨_, List.getElem?_eq_getElem (Nat.lt_of_succ_lt (List.getElem?_eq_some_iff.1 hk).1)⟩
    by_cases hiw : id ∈ w
    · exact ih w (List.mem_of_getElem? hw) hiw hw
    · refine ⟨_, mem_specs.2 ⟨k + 1, v, hk, rfl⟩, ?_⟩
      rw [if_neg (Nat.succ_ne_zero k), Nat.add_sub_cancel, hw]
      exact List.mem_map_of_mem (List.mem_filter.2 ⟨mem_sortIds.2 hid, by simpa [mem_sortIds] using hiw⟩)

theorem mem_insertAssert {x y : String × Nat} {l : List (String × Nat)} : y ∈ insertAssert x l ↔ y = x ∨ y ∈ l := by
  fun_induction insertAssert x l with
  | case1 => exact List.mem_cons
  | case2 zs => rw [List.mem_cons, or_self_left]
  | case3 => exact List.mem_cons
  | case4 z zs _ _ ih => rw [List.mem_cons, ih, List.mem_cons, or_left_comm]

theorem mem_foldl_insertAssert {y : String × Nat} (xs acc : List (String × Nat)) :
    y ∈ xs.foldl (fun acc x => insertAssert x acc) acc ↔ y ∈ acc ∨ y ∈ xs := by
  induction xs generalizing acc with
  | nil => simp
  | cons x xs ih => rw [List.foldl_cons, ih, mem_insertAssert, List.mem_cons, or_comm (a := y = x), or_assoc]

theorem mem_sizeAssertions {p : String × Nat} {ss : List Spec} :
    p ∈ sizeAssertions ss ↔ ∃ s ∈ ss, ∃ x ∈ s.plus, (x.ty, x.size) = p := by
  simp only [sizeAssertions, mem_foldl_insertAssert, ← List.flatMap_def, List.mem_flatMap, List.mem_map,
    List.not_mem_nil, false_or]

theorem mem_alignAssertions {p : String × Nat} {ss : List Spec} :
    p ∈ alignAssertions ss ↔ ∃ s ∈ ss, ∃ x ∈ s.data, (x.ty, x.align) = p := by
  simp only [alignAssertions, mem_foldl_insertAssert, ← List.flatMap_def, List.mem_flatMap, List.mem_map,
    List.not_mem_nil, false_or]

/-- `generate()` panics exactly when `max_size()` does -/
theorem module_isSome (d : Definition) (cfg : Cfg) : (module d cfg).isSome = d.maxSize.isSome := by
  unfold module
  cases d.maxSize <;> rfl

theorem fragRecord_mem_variantItems (cfg : Cfg) (s : Spec) {it : Item} (hit : it ∈ fragRecord s) :
    it ∈ variantItems cfg s := by
  simp only [variantItems, List.mem_append, hit, or_true, true_or]

/-- size and alignment of a `#[repr(align(A))]` struct whose only field is `cap` bytes of alignment 1
    (rustc's layout rule for `repr(align)`: modelled; validated by the `sizes` operation of channel X) -/
def recLayout (cap A : Nat) : Nat × Nat := ((cap + A - 1) / A * A, A)

end Truc.Gen

namespace Truc.Static
open Truc.Gen

theorem mem_copyObligations {t : String} {d : Definition} : t ∈ copyObligations d ↔
    ∃ s ∈ specs d, ∃ x, (x ∈ s.data ∨ s.hasPrev = true ∧ x ∈ s.plus) ∧ x.uninit = true ∧ x.ty = t := by
  simp only [copyObligations, ← List.flatMap_def, List.mem_flatMap, List.mem_append, List.mem_ite_nil_right,
    List.mem_map, List.mem_filter, or_and_right, exists_or, and_assoc, exists_and_left]

theorem accepts_iff (env : TyEnv) (d : Definition) : accepts env d ↔ ∀ s ∈ specs d,
    (∀ x ∈ s.plus, env.size x.ty = x.size) ∧ (∀ x ∈ s.data, env.align x.ty = x.align) ∧
    ∀ x, (x ∈ s.data ∨ s.hasPrev = true ∧ x ∈ s.plus) → x.uninit = true → env.copy x.ty = true := by
  constructor
  · rintro ⟨h1, h2, h3⟩ s hs
    exact ⟨fun x hx => h1 (x.ty, x.size) (mem_sizeAssertions.2 ⟨s, hs, x, hx, rfl⟩),
      fun x hx => h2 (x.ty, x.align) (mem_alignAssertions.2 ⟨s, hs, x, hx, rfl⟩),
      fun x hx hu => h3 x.ty (mem_copyObligations.2 ⟨s, hs, x, hx, hu, rfl⟩)⟩
  · intro h
    refine ⟨fun p hp => ?_, fun p hp => ?_, fun t ht => ?_⟩
    · obtain ⟨s, hs, x, hx, rfl⟩ := mem_sizeAssertions.1 hp
      exact (h s hs).1 x hx
    · obtain ⟨s, hs, x, hx, rfl⟩ := mem_alignAssertions.1 hp
      exact (h s hs).2.1 x hx
    · obtain ⟨s, hs, x, hx, hu, rfl⟩ := mem_copyObligations.1 ht
      exact (h s hs).2.2 x hx hu

/-- every generated record struct is `Send`, whatever it stores: its one field is the byte buffer (finding K1) -/
theorem recordSend_eq_true (env : TyEnv) (s : Spec) : recordSend env s = true := by
  simp [recordSend, recordFieldTypes]

theorem recordSync_eq_true (env : TyEnv) (s : Spec) : recordSync env s = true := by
  simp [recordSync, recordFieldTypes]

end Truc.Static
