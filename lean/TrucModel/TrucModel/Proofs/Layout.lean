import TrucModel.Proofs.Basic
import TrucModel.Proofs.ListFacts
/-
  The layout invariant `LInv` and the generic insertion lemma every strategy's proof goes through.
-/
namespace Truc

/-- list order = address order, zero-size data included -/
def Sorted (defs : Defs) (l : List Nat) : Prop := l.Pairwise (fun a b => stop defs a ≤ off defs b)

structure LInv (defs : Defs) (l : List Nat) : Prop where
  sorted  : Sorted defs l
  aligned : ∀ d ∈ l, al defs d ∣ off defs d
  inRange : ∀ d ∈ l, d < defs.length
  nodup   : l.Nodup

theorem LInv.nil (defs : Defs) : LInv defs [] :=
  ⟨List.Pairwise.nil, List.forall_mem_nil _, List.forall_mem_nil _, List.nodup_nil⟩

theorem LInv.sublist {defs : Defs} {l l' : List Nat} (h : LInv defs l) (hs : l'.Sublist l) : LInv defs l' :=
  ⟨h.sorted.sublist hs, fun d hd => h.aligned d (hs.subset hd), fun d hd => h.inRange d (hs.subset hd),
   h.nodup.sublist hs⟩

theorem LInv.disjoint {defs : Defs} {l : List Nat} (h : LInv defs l) {a b : Nat} (ha : a ∈ l) (hb : b ∈ l)
    (hne : a ≠ b) : stop defs a ≤ off defs b ∨ stop defs b ≤ off defs a :=
  pairwise_mem_cases h.sorted ha hb hne

theorem LInv.removeData {defs : Defs} {l : List Nat} (h : LInv defs l) (rm : List Nat) : LInv defs (removeData l rm) :=
  h.sublist (removeData_sublist l rm)

theorem LInv.congr {defs defs' : Defs} {l : List Nat} (h : LInv defs l) (hlen : defs.length ≤ defs'.length)
    (hinfo : ∀ d ∈ l, info defs' d = info defs d) : LInv defs' l := by
  refine ⟨List.Pairwise.imp_of_mem (fun {a b} ha hb hab => ?_) h.sorted, fun d hd => ?_,
    fun d hd => Nat.lt_of_lt_of_le (h.inRange d hd) hlen, h.nodup⟩
  · unfold stop off sz; rw [hinfo a ha, hinfo b hb]; exact hab
  · unfold al off; rw [hinfo d hd]; exact h.aligned d hd

theorem LInv.append_defs {defs : Defs} {l : List Nat} (h : LInv defs l) (ext : Defs) : LInv (defs ++ ext) l :=
  h.congr (List.length_append ▸ Nat.le_add_right _ _) fun d hd => info_append_left defs ext (h.inRange d hd)

theorem LInv.setOffset_notin {defs : Defs} {l : List Nat} (h : LInv defs l) {id : Nat} (o : Nat) (hid : id ∉ l) :
    LInv (setOffset defs id o) l :=
  h.congr (Nat.le_of_eq (setOffset_length defs id o).symm) fun d hd => info_setOffset_ne defs id o d (ne_of_mem_of_not_mem hd hid)

theorem stop_le_endOf {defs : Defs} {l : List Nat} (h : Sorted defs l) {x : Nat} (hx : x ∈ l) :
    stop defs x ≤ endOf defs l := by
  unfold endOf
  cases hl : l.getLast? with
  | none => rw [List.getLast?_eq_none_iff.1 hl] at hx; cases hx
  | some z =>
    obtain ⟨l0, rfl⟩ := List.getLast?_eq_some_iff.1 hl
    rcases List.mem_append.1 hx with hx | hx
    · exact Nat.le_trans (h.rel_of_mem_append hx (List.mem_singleton_self z)) (Nat.le_add_right _ _)
    · rw [List.mem_singleton.1 hx]; exact Nat.le_refl _

theorem endOf_concat (defs : Defs) (l : List Nat) (d : Nat) : endOf defs (l ++ [d]) = stop defs d := by
  unfold endOf; rw [List.getLast?_concat]

theorem endOf_setOffset_notin (defs : Defs) {l : List Nat} {id : Nat} (o : Nat) (hid : id ∉ l) :
    endOf (setOffset defs id o) l = endOf defs l := by
  unfold endOf
  cases h : l.getLast? with
  | none => rfl
  | some z => exact stop_setOffset_ne _ _ _ _ (ne_of_mem_of_not_mem (List.mem_of_getLast? h) hid)

theorem Sorted.insert {defs : Defs} {l : List Nat} (h : Sorted defs l) {x k : Nat}
    (hbefore : ∀ e ∈ l.take k, stop defs e ≤ off defs x) (hafter : ∀ e ∈ l.drop k, stop defs x ≤ off defs e) :
    Sorted defs (l.take k ++ x :: l.drop k) := by
  unfold Sorted
  rw [List.pairwise_append, List.pairwise_cons]
  refine ⟨h.sublist (List.take_sublist k l), ⟨hafter, h.sublist (List.drop_sublist k l)⟩, fun a ha b hb => ?_⟩
  rcases List.mem_cons.1 hb with rfl | hb
  · exact hbefore a ha
  · exact h.rel_of_mem_take_of_mem_drop ha hb

theorem LInv.insert {defs : Defs} {l : List Nat} (h : LInv defs l) {id k o : Nat}
    (hid : id ∉ l) (hlt : id < defs.length)
    (hbefore : ∀ e ∈ l.take k, stop defs e ≤ o)
    (hafter : ∀ e ∈ l.drop k, o + sz defs id ≤ off defs e)
    (hal : al defs id ∣ o) :
    LInv (setOffset defs id o) (l.take k ++ id :: l.drop k) := by
  have hl := h.setOffset_notin o hid
  refine ⟨hl.sorted.insert (fun e he => ?_) (fun e he => ?_), fun d hd => ?_, fun d hd => ?_, ?_⟩
  · rw [stop_setOffset_ne _ _ _ _ (ne_of_mem_of_not_mem (List.mem_of_mem_take he) hid), off_setOffset_self _ _ _ hlt]
    exact hbefore e he
  · rw [stop_setOffset_self _ _ _ hlt, off_setOffset_ne _ _ _ _ (ne_of_mem_of_not_mem (List.mem_of_mem_drop he) hid)]
    exact hafter e he
  · rcases mem_insert.1 hd with rfl | hd
    · rw [al_setOffset, off_setOffset_self _ _ _ hlt]; exact hal
    · exact hl.aligned d hd
  · rcases mem_insert.1 hd with rfl | hd
    · rw [setOffset_length]; exact hlt
    · exact hl.inRange d hd
  · exact (perm_insert l k id).nodup_iff.2 (List.nodup_cons.2 ⟨hid, h.nodup⟩)

theorem LInv.push {defs : Defs} {l : List Nat} (h : LInv defs l) {id o : Nat}
    (hid : id ∉ l) (hlt : id < defs.length) (ho : endOf defs l ≤ o) (hal : al defs id ∣ o) :
    LInv (setOffset defs id o) (l ++ [id]) := by
  have := h.insert (k := l.length) hid hlt
    (fun e he => Nat.le_trans (stop_le_endOf h.sorted (List.mem_of_mem_take he)) ho)
    (fun e he => by rw [List.drop_length] at he; cases he) hal
  rwa [List.take_length, List.drop_length] at this

end Truc
