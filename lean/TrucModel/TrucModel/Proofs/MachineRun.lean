import TrucModel.Proofs.Memory
/-
  Runs of stores and of loads on a buffer, and the runs of `write` / `readLet` statements that perform
  them: each is given in closed form, with what it does to the extents of the data involved and of
  all others.
-/
namespace Truc.Mach
open Truc.Gen

def storeAll (dr : String → Bool) : Buf → List (D × Val) → Except MErr Buf
  | b, [] => .ok b
  | b, (d, v) :: rest => match b.store dr d v with
    | .error e => .error e
    | .ok b' => storeAll dr b' rest

/-- whatever a successful run of stores was applied to, this is its result -/
theorem storeAll_of_ok (dr : String → Bool) (ws : List (D × Val)) (b b' : Buf) (h : storeAll dr b ws = .ok b') :
    b' = ⟨b.cap, ws.foldl stored b.exts⟩ := by
  fun_induction storeAll dr b ws with
  | case1 => exact (Except.ok.inj h).symm
  | case2 => cases h
  | case3 _ _ _ _ _ hs ih =>
    rw [ih h, store_of_ok hs]
    rfl

theorem freeFor_stored {dr : String → Bool} {cap : Nat} {l : List Ext} {w : D × Val} {d' : D}
    (h : FreeFor dr ⟨cap, l⟩ d') (hap : Apart w.1 d') : FreeFor dr ⟨cap, stored l w⟩ d' := by
  intro e he hov
  rcases List.mem_append.1 he with he | he
  · exact h e (List.mem_filter.1 he).1 hov
  · rw [List.mem_singleton.1 he, overlaps_mkExt_apart hap] at hov; cases hov

theorem storeAll_eq (dr : String → Bool) : ∀ (ws : List (D × Val)) (b : Buf),
    (∀ w ∈ ws, w.1.offset + w.1.size ≤ b.cap ∧ FreeFor dr b w.1) → ws.Pairwise (fun w w' => Apart w.1 w'.1) →
    storeAll dr b ws = .ok ⟨b.cap, ws.foldl stored b.exts⟩ := by
  intro ws
  induction ws with
  | nil => intro b _ _; rfl
  | cons w rest ih =>
    intro b hall hpw
    rw [List.pairwise_cons] at hpw
    obtain ⟨hc, hfree⟩ := hall w List.mem_cons_self
    unfold storeAll
    rw [store_eq w.2 hc hfree]
    exact ih ⟨b.cap, stored b.exts w⟩
      (fun w' hw' => ⟨(hall w' (List.mem_cons_of_mem _ hw')).1,
        freeFor_stored (hall w' (List.mem_cons_of_mem _ hw')).2 (hpw.1 w' hw')⟩) hpw.2

theorem mem_foldl_stored : ∀ (ws : List (D × Val)) (l : List Ext) (e : Ext),
    e ∈ ws.foldl stored l → e ∈ l ∨ ∃ w ∈ ws, e = mkExt w := by
  intro ws
  induction ws with
  | nil => intro l e he; exact Or.inl he
  | cons w rest ih =>
    intro l e he
    rcases ih _ e he with h | ⟨w', hw', rfl⟩
    · rcases List.mem_append.1 h with h | h
      · exact Or.inl (List.mem_filter.1 h).1
      · exact Or.inr ⟨w, List.mem_cons_self, List.mem_singleton.1 h⟩
    · exact Or.inr ⟨w', List.mem_cons_of_mem _ hw', rfl⟩

theorem filter_key_foldl_stored {d' : D} : ∀ (ws : List (D × Val)) (l : List Ext),
    (∀ w ∈ ws, w.2.ty = w.1.ty ∧ Apart w.1 d') → (ws.foldl stored l).filter (keyOf d') = l.filter (keyOf d') := by
  intro ws
  induction ws with
  | nil => intro l _; rfl
  | cons w rest ih =>
    intro l h
    have hw := h w List.mem_cons_self
    rw [List.foldl_cons, ih _ (fun w' hw' => h w' (List.mem_cons_of_mem _ hw')), filter_key_stored hw.1 hw.2]

theorem filter_key_foldl_stored_self : ∀ (ws : List (D × Val)) (b : Buf),
    (∀ w ∈ ws, w.2.ty = w.1.ty ∧ FreshKey b w.1) → ws.Pairwise (fun w w' => Apart w.1 w'.1) →
    ∀ w ∈ ws, (ws.foldl stored b.exts).filter (keyOf w.1) = [mkExt w] := by
  intro ws
  induction ws with
  | nil => intro _ _ _ w hw; cases hw
  | cons w0 rest ih =>
    intro b hall hpw w hw
    rw [List.pairwise_cons] at hpw
    have h0 := hall w0 List.mem_cons_self
    rw [List.foldl_cons]
    rcases List.mem_cons.1 hw with rfl | hw
    · rw [filter_key_foldl_stored rest _ (fun w' hw' => ⟨(hall w' (List.mem_cons_of_mem _ hw')).1, (hpw.1 w' hw').symm⟩)]
      exact filter_key_stored_self h0.1 h0.2
    · refine ih ⟨b.cap, stored b.exts w0⟩ (fun w' hw' => ?_) hpw.2 w hw
      have h' := hall w' (List.mem_cons_of_mem _ hw')
      refine ⟨h'.1, fun e he hov => ?_⟩
      rcases List.mem_append.1 he with he | he
      · exact h'.2 e (List.mem_filter.1 he).1 hov
      · rw [List.mem_singleton.1 he]; exact keyOf_mkExt_apart h0.1 (hpw.1 w' hw')

def afterLoads (dr : String → Bool) (b : Buf) (ds : List D) : Buf := ds.foldl (afterLoad dr) b

/-- reading out fields with distinct keys: no extent comes to life, each droppable field read loses one, every
    other key keeps its extents -/
theorem afterLoads_spec (dr : String → Bool) : ∀ (ds : List D) (b : Buf), ds.Pairwise KeyNe →
    (afterLoads dr b ds).cap = b.cap ∧
    (∀ x ∈ (afterLoads dr b ds).exts, x.moved = false → x ∈ b.exts) ∧
    (∀ d ∈ ds, dr d.ty = true → cnt d (afterLoads dr b ds).exts = cnt d b.exts - 1) ∧
    (∀ d', (∀ d ∈ ds, KeyNe d d') → (afterLoads dr b ds).exts.filter (keyOf d') = b.exts.filter (keyOf d')) := by
  intro ds
  induction ds with
  | nil => intro b _; exact ⟨rfl, fun _ hx _ => hx, fun _ hd => (nomatch hd), fun _ _ => rfl⟩
  | cons d0 rest ih =>
    intro b hpw
    rw [List.pairwise_cons] at hpw
    obtain ⟨hcap, hlive, hself, hother⟩ := ih (afterLoad dr b d0) hpw.2
    refine ⟨hcap.trans (afterLoad_cap dr b d0), fun x hx hm => afterLoad_live dr b d0 x (hlive x hx hm) hm, fun d hd hdr => ?_,
      fun d' h => (hother d' fun x hx => h x (List.mem_cons_of_mem _ hx)).trans (afterLoad_other dr b (h d0 List.mem_cons_self))⟩
    show cnt d (afterLoads dr (afterLoad dr b d0) rest).exts = _
    rcases List.mem_cons.1 hd with rfl | hd
    · rw [cnt_congr (hother d fun x hx => (hpw.1 x hx).symm), afterLoad_cnt_self dr b d hdr]
    · rw [hself d hd hdr, cnt_congr (afterLoad_other dr b (hpw.1 d hd))]

theorem run_append (dr : String → Bool) (cap : Nat) (a b : List Stmt) (st : St) :
    run dr cap (a ++ b) st = match run dr cap a st with | .error e => .error e | .ok st' => run dr cap b st' := by
  fun_induction run dr cap a st with
  | case1 => rfl
  | case2 _ _ _ _ hs => rw [List.cons_append, run, hs]
  | case3 _ _ _ _ hs ih => rw [← ih, List.cons_append, run, hs]

theorem run_seq {dr : String → Bool} {cap : Nat} {a b : List Stmt} {st st1 : St} (h : run dr cap a st = .ok st1) :
    run dr cap (a ++ b) st = run dr cap b st1 := by rw [run_append, h]

theorem run_cons {dr : String → Bool} {cap : Nat} {s : Stmt} {st st1 : St} (h : step dr cap st s = .ok st1) (rest : List Stmt) :
    run dr cap (s :: rest) st = run dr cap rest st1 := by rw [run, h]

/-- the unpacked struct handed to a constructor or conversion -/
def fieldsOf (ds : List D) (vals : List Val) : List (String × Val) := (ds.zip vals).map fun p => (p.1.name, p.2)

theorem takeField_fieldsOf_cons {d : D} {ds : List D} (v : Val) (vs : List Val) (h : d.name ∉ ds.map (·.name)) :
    takeField (fieldsOf (d :: ds) (v :: vs)) d.name = some (v, fieldsOf ds vs) := by
  have hrest : (fieldsOf ds vs).filter (fun q => q.1 != d.name) = fieldsOf ds vs := by
    rw [List.filter_eq_self]
    intro q hq
    obtain ⟨p, hp, rfl⟩ := List.mem_map.1 hq
    rw [bne_iff_ne]
    exact fun heq => h (List.mem_map.2 ⟨p.1, (List.of_mem_zip hp).1, heq⟩)
  unfold takeField
  rw [show fieldsOf (d :: ds) (v :: vs) = (d.name, v) :: fieldsOf ds vs from rfl,
    List.find?_cons_of_pos (by exact beq_self_eq_true d.name), List.filter_cons_of_neg (by simp), hrest]

theorem step_write {dr : String → Bool} {cap : Nat} {st : St} {d : D} {src : String} {b b' : Buf}
    {fs fs' : List (String × Val)} {v : Val} (hd : st.data = some b) (ha : st.args = [(src, fs)])
    (ht : takeField fs d.name = some (v, fs')) (hs : b.store dr d v = .ok b') :
    step dr cap st (.write d src) =
      .ok { st with data := some b', acc := st.acc ++ [("write", d.offset, d.ty)], args := [(src, fs')] } := by
  simp only [step, hd, ha, List.find?_cons, beq_self_eq_true, ht, hs, List.map_cons, List.map_nil, if_true]

/-- the argument struct is consumed from its head, in the order of the statements: with distinct field names the first
    `takeField` finds the first field and leaves the struct of the others (`takeField_fieldsOf_cons`); with nothing
    to store the argument may have another name (`_from`, `_plus`) -/
theorem run_writes (dr : String → Bool) (cap : Nat) (src nm : String) :
    ∀ (ds : List D) (vals : List Val) (st : St) (b b' : Buf), nm = src ∨ ds = [] →
    (ds.map (·.name)).Nodup → vals.length = ds.length → storeAll dr b (ds.zip vals) = .ok b' →
    st.data = some b → st.args = [(nm, fieldsOf ds vals)] →
    run dr cap (ds.map fun d => Stmt.write d src) st =
      .ok { st with data := some b', args := [(nm, [])], acc := st.acc ++ ds.map fun d => ("write", d.offset, d.ty) } := by
  intro ds
  induction ds with
  | nil =>
    intro vals st b b' _ _ _ hs hd ha
    obtain rfl : b = b' := Except.ok.inj hs
    show Except.ok st = Except.ok { st with data := some b, args := [(nm, [])], acc := st.acc ++ [] }
    rw [← hd, List.append_nil, show [(nm, ([] : List (String × Val)))] = st.args from ha.symm]
  | cons d rest ih =>
    intro vals st b b' hnm hnd hl hs hd ha
    obtain rfl : nm = src := hnm.resolve_right (List.cons_ne_nil d rest)
    cases vals with
    | nil => cases hl
    | cons v vs =>
      rw [List.map_cons, List.nodup_cons] at hnd
      simp only [List.zip_cons_cons, storeAll] at hs
      cases hst : b.store dr d v with
      | error e => rw [hst] at hs; cases hs
      | ok b1 =>
        rw [hst] at hs
        simp only [List.map_cons, run, step_write hd ha (takeField_fieldsOf_cons v vs hnd.1) hst]
        rw [ih vs _ b1 b' (Or.inl rfl) hnd.2 (Nat.succ.inj hl) hs rfl rfl, List.append_assoc]
        rfl

theorem setRecv_of_recvBuf {st : St} {recv : String} {b : Buf} (h : st.recvBuf recv = some b) : st.setRecv recv b = st := by
  revert h
  fun_cases St.recvBuf st recv with
  | case1 hr =>
    intro h
    rw [St.setRecv, if_pos hr, ← h]
  | case2 hr =>
    intro h
    rw [St.setRecv, if_neg hr, ← h]

theorem recvBuf_setRecv (st : St) (recv : String) (b : Buf) (l : List (String × Val)) (a : List Access) :
    ({ (st.setRecv recv b) with locals := l, acc := a } : St).recvBuf recv = some b := by
  unfold St.setRecv St.recvBuf; cases recv == "self" <;> rfl

theorem setRecv_setRecv (st : St) (recv : String) (b1 b2 : Buf) (l : List (String × Val)) (a : List Access) :
    ({ (st.setRecv recv b1) with locals := l, acc := a } : St).setRecv recv b2 = { (st.setRecv recv b2) with locals := l, acc := a } := by
  unfold St.setRecv; cases recv == "self" <;> rfl

theorem step_readLet {dr : String → Bool} {cap : Nat} {st : St} {bind recv : String} {d : D} {b b' : Buf} {v : Val}
    (hb : st.recvBuf recv = some b) (hl : b.load dr d = .ok (v, b')) :
    step dr cap st (.readLet bind d recv) =
      .ok { (st.setRecv recv b') with locals := st.locals ++ [(bind, v)], acc := st.acc ++ [("read", d.offset, d.ty)] } := by
  simp only [step, hb, hl]

/-- each field read is found (or plain-old-data) when its turn comes: the earlier reads touch other keys only -/
theorem run_reads (dr : String → Bool) (cap : Nat) (nm : D → String) (recv : String) : ∀ (ds : List D) (st : St) (b : Buf),
    st.recvBuf recv = some b → (∀ d ∈ ds, d.offset + d.size ≤ b.cap) →
    (∀ d ∈ ds, (∃ e, b.find d = some e) ∨ dr d.ty = false) → ds.Pairwise KeyNe →
    run dr cap (ds.map fun d => Stmt.readLet (nm d) d recv) st =
      .ok { (st.setRecv recv (afterLoads dr b ds)) with locals := st.locals ++ (ds.map nm).zip (ds.map (valOf b)),
                                                        acc := st.acc ++ ds.map fun d => ("read", d.offset, d.ty) } := by
  intro ds
  induction ds with
  | nil =>
    intro st b hs _ _ _
    show Except.ok st = Except.ok { (st.setRecv recv b) with locals := st.locals ++ [], acc := st.acc ++ [] }
    rw [List.append_nil, List.append_nil, setRecv_of_recvBuf hs]
  | cons d rest ih =>
    intro st b hs hcap hfound hpw
    rw [List.pairwise_cons] at hpw
    have hfind : ∀ d' ∈ rest, (afterLoad dr b d).find d' = b.find d' := fun d' hd' =>
      find_congr (afterLoad_other dr b (hpw.1 d' hd'))
    have hvals : rest.map (valOf (afterLoad dr b d)) = rest.map (valOf b) :=
      List.map_congr_left (fun d' hd' => valOf_congr (hfind d' hd'))
    simp only [List.map_cons, run, step_readLet hs (load_eq (hcap d List.mem_cons_self) (hfound d List.mem_cons_self))]
    rw [ih _ (afterLoad dr b d) (recvBuf_setRecv st recv _ _ _)
      (fun d' hd' => by rw [afterLoad_cap]; exact hcap d' (List.mem_cons_of_mem _ hd'))
      (fun d' hd' => by rw [hfind d' hd']; exact hfound d' (List.mem_cons_of_mem _ hd')) hpw.2,
      hvals, setRecv_setRecv, List.append_assoc, List.append_assoc]
    rfl

end Truc.Mach
