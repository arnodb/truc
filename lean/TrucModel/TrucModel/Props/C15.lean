import TrucModel.Proofs.CloneSerdeProps
/-
  C15 — Serialising then deserialising a record gives an equal record.
  Model of the generated `Serialize` / `Deserialize` (visitor) at the level of field values; the
  codecs of the field types are assumed to round-trip (an element is `some v` exactly when it
  decodes to `v`).  serde, serde_json and bincode themselves are modelled by `SeqIn` (parameter).
-/
namespace Truc.Frag
open Truc.Gen Truc.Mach

/-- round trip, for both kinds of format (with and without a length hint), any number of fields
    (including none) -/
theorem C15_roundtrip (dr : String → Bool) (ds : List D) (vals : List Val) (h : vals.length = ds.length) (hinted : Bool) :
    deserialize dr ds ⟨hinted, serialize vals⟩ = .ok vals := by
  have hr := readElems_serialize_append dr [] vals ds [] 0 (Nat.le_of_eq h)
  rw [List.append_nil, h, List.drop_length] at hr
  simp [deserialize, h, hr, readElems]

/-- too few elements: rejected (`invalid_length` when the format announces the length, else
    `missing_field` at the first absent one) and exactly the already decoded values are dropped -/
theorem C15_too_few (dr : String → Bool) (ds : List D) (vals : List Val) (h : vals.length < ds.length) :
    deserialize dr ds ⟨true, serialize vals⟩ = .err .invalidLength [] ∧
    deserialize dr ds ⟨false, serialize vals⟩ = .err (.missingField vals.length) (vals.filter fun x => dr x.ty) := by
  have hr := readElems_serialize_append dr [] vals ds [] 0 (Nat.le_of_lt h)
  rw [List.append_nil, List.drop_eq_getElem_cons h] at hr
  constructor
  · simp [deserialize, Nat.ne_of_lt h]
  · simp [deserialize, hr, readElems]

/-- an undecodable element at position `k`: rejected with that element's error, the `k` values
    decoded before it are dropped, nothing else -/
theorem C15_bad_element (dr : String → Bool) (ds : List D) (pre : List Val) (post : List (Option Val))
    (h : pre.length < ds.length) :
    deserialize dr ds ⟨false, serialize pre ++ none :: post⟩ = .err (.badElement pre.length) (pre.filter fun x => dr x.ty) := by
  have hr := readElems_serialize_append dr (none :: post) pre ds [] 0 (Nat.le_of_lt h)
  rw [List.drop_eq_getElem_cons h] at hr
  simp [deserialize, hr, readElems]

/-- too many elements: a length-announcing format is rejected by the hint check before anything is
    decoded; a self-describing format without hint is rejected by its end-of-sequence check, and the
    record that had been built is dropped (all of its values, once) -/
theorem C15_too_many (dr : String → Bool) (ds : List D) (vals : List Val) (extra : List (Option Val))
    (h : vals.length = ds.length) (hx : extra ≠ []) :
    deserialize dr ds ⟨true, serialize vals ++ extra⟩ = .err .invalidLength [] ∧
    deserialize dr ds ⟨false, serialize vals ++ extra⟩ = .err .trailing (vals.filter fun x => dr x.ty) := by
  have hr := readElems_serialize_append dr extra vals ds [] 0 (Nat.le_of_eq h)
  rw [h, List.drop_length] at hr
  constructor
  · simp [deserialize, h, hx]
  · simp [deserialize, hr, readElems, h, List.length_pos_iff.2 hx]

/-- a self-describing format, one element short: `missing_field` at position 1, the decoded heap value dropped -/
example : deserialize (fun t => t == "H") [⟨0, "a", "H", 8, 8, 0, false⟩, ⟨1, "b", "P4", 4, 4, 8, false⟩]
    ⟨false, [some ⟨5, "H"⟩]⟩ = .err (.missingField 1) [⟨5, "H"⟩] := by decide +kernel

end Truc.Frag
