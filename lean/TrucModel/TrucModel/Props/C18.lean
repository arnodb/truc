import TrucModel.Proofs.BuilderProps
import TrucModel.Props.Examples
import TrucModel.Model.Resolver
import TrucModel.Proofs.LayoutFactor
/-
  C18 — Layout depends only on the resolver's answers; type tables are faithful.
  The model has no access to the host's sizes: every entry point records exactly the numbers it is
  given (`C18_records_answer`), and all layout decisions read only those recorded numbers.
  `C18_layout_factor`: two histories whose requests agree on the supplied sizes and alignments (and on
  removals and strategies) — whatever the names, type names and uninit flags, as long as no addition
  is refused — produce the same variants and the same offset for every datum: the layout is a function
  of the supplied sizes and alignments only. (Every strategy commutes with erasing everything but
  size, alignment and offset: `Proofs/LayoutFactor.lean`.)
  Channel L drives the real entry points under *synthetic* resolvers whose answers differ from the
  host's; an implementation consulting `size_of` would diverge from the model.
  Second part of the file (namespace `Res`): what each entry point of the native builder hands over
  (`C18_entry_*`), the same calls under two resolvers (`Call`, `callReqs`, `C18_same_answers_same_layout`),
  and the type table (`C18_table_*`).
-/
namespace Truc

/-- an accepted addition records the supplied description verbatim (with the unset offset) -/
theorem C18_records_answer (s : BState) (i : Info) (id : Nat) (h : (s.addDatum i).2 = .ok id) :
    info (s.addDatum i).1.defs id = i := by
  rcases addDatum_cases s i with ⟨_, he⟩ | ⟨_, he⟩ <;> rw [he] at h ⊢
  · cases h
  · cases h
    exact info_append_self s.defs i

/-- nothing recorded for a datum other than its offset is ever changed by a close -/
theorem C18_shape_preserved (reqs : List Req) (hv : ∀ r ∈ reqs, r.valid) (st : Strategy) (hn : st.isNative = true) :
    ∀ s' vid, (run reqs).close st = some (s', vid) → ∀ id, sameShape (info s'.defs id) (info (run reqs).defs id) := by
  intro s' vid hc id
  cases hp : (run reqs).hasPendingChanges with
  | false =>
    rw [close_of_not_pending st hp] at hc
    cases hc
    exact sameShape_refl _
  | true =>
    obtain ⟨defs', l', hc', hok⟩ := (reachable_BInv reqs hv).close_spec hn hp
    rw [hc'] at hc
    cases hc
    exact hok.shape id

/-- the layout is a function of the supplied sizes and alignments only -/
theorem C18_layout_factor (reqs reqs' : List Req) (hg : SameGeo reqs reqs')
    (ha : Accepted BState.init reqs) (ha' : Accepted BState.init reqs') :
    (run reqs).variants = (run reqs').variants ∧
    (run reqs).defs.length = (run reqs').defs.length ∧
    ∀ id, off (run reqs).defs id = off (run reqs').defs id ∧ sz (run reqs).defs id = sz (run reqs').defs id ∧
      al (run reqs).defs id = al (run reqs').defs id := by
  have h : GB (run reqs) = GB (run reqs') := layout_factor_from reqs reqs' BState.init BState.init rfl hg ha ha'
  have hd : G (run reqs).defs = G (run reqs').defs := congrArg BState.defs h
  refine ⟨(congrArg BState.variants h :), ?_, fun id => ⟨?_, ?_, ?_⟩⟩
  · rw [← G_length, hd, G_length]
  · rw [← off_G, hd, off_G]
  · rw [← sz_G, hd, sz_G]
  · rw [← al_G, hd, al_G]

/-- non-vacuity: the example history and a renamed, retyped copy of it have the same geometry and are accepted -/
example : SameGeo Ex.h1 (Ex.h1.map (fun r => match r with
      | .add i => .add { i with name := i.name ++ "_x", ty := "Other", uninit := !i.uninit }
      | r => r)) ∧ Accepted BState.init Ex.h1 := by
  refine ⟨SameGeo.map (fun r => ?_) Ex.h1, ?_⟩
  · cases r with
    | add i => exact ⟨rfl, rfl⟩
    | remove id => exact rfl
    | close st => exact rfl
  · simp only [Ex.h1, Accepted, and_true]
    decide +kernel

example : ((BState.init.addDatum (Ex.I "a" 12 4)).1.defs.map (fun i => (i.size, i.align))) = [(12, 4)] := by
  decide +kernel

end Truc

namespace Truc.Res

theorem lookup_append_new {α : Type} (t : List (String × α)) (key : String) (e : α) (h : t.lookup key = none) :
    (t ++ [(key, e)]).lookup key = some e := by
  rw [List.lookup_append, h, Option.none_or]
  exact List.lookup_cons_self

theorem lookup_append_other {α : Type} (t : List (String × α)) (key k' : String) (e : α) (h : k' ≠ key) :
    (t ++ [(key, e)]).lookup k' = t.lookup k' := by
  rw [List.lookup_append, List.lookup_cons, beq_false_of_ne h]
  exact Option.or_none

/-! ### the entry points (`add_datum`, `add_datum_allow_uninit`, `add_datum_override`, `add_dynamic_datum`, `copy_datum`) -/

/-- a typed entry point hands over exactly the table's answer for the type -/
theorem C18_entry_typed (t : Table) (name key : String) (i : Truc.Info) (h : entryInfo t name (.typed key) = some i) :
    ∃ e, lookupKey t key = some e ∧ i = ⟨name, e.name, e.size, e.align, Truc.UNSET, false⟩ :=
  let ⟨e, he, hi⟩ := Option.map_eq_some_iff.1 h
  ⟨e, he, hi.symm⟩

theorem C18_entry_typed_uninit (t : Table) (name key : String) (i : Truc.Info) (h : entryInfo t name (.typedUninit key) = some i) :
    ∃ e, lookupKey t key = some e ∧ i = ⟨name, e.name, e.size, e.align, Truc.UNSET, true⟩ :=
  let ⟨e, he, hi⟩ := Option.map_eq_some_iff.1 h
  ⟨e, he, hi.symm⟩

/-- an override takes every specified item verbatim and every unspecified one from the table (never from anywhere else) -/
theorem C18_entry_override (t : Table) (name key : String) (o : Override) (i : Truc.Info)
    (h : entryInfo t name (.override key o) = some i) :
    ∃ e, lookupKey t key = some e ∧
      i.size = (match o.size with | some s => s | none => e.size) ∧
      i.align = (match o.align with | some a => a | none => e.align) ∧
      i.ty = (match o.typeName with | some n => n | none => e.name) ∧
      i.uninit = (match o.uninit with | some u => u | none => false) ∧ i.name = name ∧ i.offset = Truc.UNSET := by
  obtain ⟨e, he, rfl⟩ := Option.map_eq_some_iff.1 h
  refine ⟨e, he, ?_, ?_, ?_, ?_, rfl, rfl⟩
  · cases o.size <;> rfl
  · cases o.align <;> rfl
  · cases o.typeName <;> rfl
  · cases o.uninit <;> rfl

/-- the dynamic entry point: the table's answer for the normalised spelling, including its uninit flag -/
theorem C18_entry_dynamic (t : Table) (name spelling : String) (i : Truc.Info) (h : entryInfo t name (.dynamic spelling) = some i) :
    ∃ e, lookup t spelling = some e ∧ i = ⟨name, e.name, e.size, e.align, Truc.UNSET, e.uninit⟩ :=
  let ⟨e, he, hi⟩ := Option.map_eq_some_iff.1 h
  ⟨e, he, hi.symm⟩

/-- a type the table does not contain is refused by every entry point that consults the resolver -/
theorem C18_entry_unregistered (t : Table) (name key : String) (o : Override) (h : lookupKey t key = none) :
    entryInfo t name (.typed key) = none ∧ entryInfo t name (.typedUninit key) = none ∧
    entryInfo t name (.override key o) = none := by
  simp [entryInfo, h]

/-- a copied datum keeps its description (the offset is reset) -/
theorem C18_entry_copy (t : Table) (name : String) (src : Truc.Info) :
    entryInfo t name (.copy src) = some { src with offset := Truc.UNSET } := rfl

/-- entry point, then the generic builder: what ends up recorded is what the entry point handed over -/
theorem C18_entry_recorded (t : Table) (name : String) (e : EntryPoint) (i : Truc.Info) (s : Truc.BState) (id : Nat)
    (he : entryInfo t name e = some i) (h : (s.addDatum i).2 = .ok id) :
    Truc.info (s.addDatum i).1.defs id = i := Truc.C18_records_answer s i id h

example : (do
    let t ← register [] "usize" ⟨"usize", 4, 4, true⟩
    entryInfo t "f" (.override "usize" { align := some 2 })) = some ⟨"f", "usize", 4, 2, Truc.UNSET, false⟩ ∧
    entryInfo [] "f" (.typed "usize") = none := by decide +kernel

/-! ### two resolvers that give the same sizes and alignments give the same layout -/

/-- a call on the native builder -/
inductive Call where
  | add (name : String) (e : EntryPoint)
  | remove (id : Nat)
  | close (st : Truc.Strategy)

/-- the request the generic builder receives; `none` = the resolver refuses the type -/
def callReq (t : Table) : Call → Option Truc.Req
  | .add name e => (entryInfo t name e).map Truc.Req.add
  | .remove id => some (.remove id)
  | .close st => some (.close st)

def callReqs (t : Table) : List Call → Option (List Truc.Req)
  | [] => some []
  | c :: cs => match callReq t c, callReqs t cs with
    | some r, some rs => some (r :: rs)
    | _, _ => none

/-- the same calls made under two resolvers (tables) whose answers agree on size and alignment — whatever else differs, names
    of types and uninit flags included — produce the same variants and the same offsets: the layout is a function of the sizes
    and alignments the resolver supplies, and of nothing else -/
theorem C18_same_answers_same_layout (t t' : Table) (calls : List Call) (reqs reqs' : List Truc.Req)
    (h : callReqs t calls = some reqs) (h' : callReqs t' calls = some reqs')
    (hagree : ∀ name e i i', entryInfo t name e = some i → entryInfo t' name e = some i' → i.size = i'.size ∧ i.align = i'.align)
    (ha : Truc.Accepted Truc.BState.init reqs) (ha' : Truc.Accepted Truc.BState.init reqs') :
    (Truc.run reqs).variants = (Truc.run reqs').variants ∧
    ∀ id, Truc.off (Truc.run reqs).defs id = Truc.off (Truc.run reqs').defs id := by
  have hcall : ∀ c r r', callReq t c = some r → callReq t' c = some r' → Truc.geoEq r r' := by
    intro c r r' hc hc'
    cases c with
    | add name e =>
      obtain ⟨i, hi, rfl⟩ := Option.map_eq_some_iff.1 hc
      obtain ⟨i', hi', rfl⟩ := Option.map_eq_some_iff.1 hc'
      exact hagree name e i i' hi hi'
    | remove id => cases hc; cases hc'; rfl
    | close st => cases hc; cases hc'; rfl
  have hg : Truc.SameGeo reqs reqs' := by
    clear ha ha'
    fun_induction callReqs t calls generalizing reqs reqs' with
    | case1 => cases h; cases h'; trivial
    | case2 c cs r rs hcs hc ih =>
      cases h
      rw [callReqs] at h'
      split at h'
      · rename_i r' rs' hc' hcs'
        cases h'
        exact ⟨hcall c r r' hc hc', ih rs rs' hcs hcs'⟩
      · cases h'
    | case3 => cases h
  have := Truc.C18_layout_factor reqs reqs' hg ha ha'
  exact ⟨this.1, fun id => (this.2.2 id).1⟩

/-- non-vacuity: two tables that name and flag `u8` differently but agree on 1/1 -/
example : callReqs [("u8", ⟨"u8", 1, 1, true⟩)] [.add "a" (.typed "u8"), .close .simple] =
      some [.add ⟨"a", "u8", 1, 1, Truc.UNSET, false⟩, .close .simple] ∧
    callReqs [("u8", ⟨"byte", 1, 1, false⟩)] [.add "a" (.typed "u8"), .close .simple] =
      some [.add ⟨"a", "byte", 1, 1, Truc.UNSET, false⟩, .close .simple] := by
  constructor <;> rfl

/-- a table answers exactly what was registered … -/
theorem C18_table_registered (t t' : Table) (key : String) (e : Entry) (h : register t key e = some t') :
    lookupKey t' key = some e := by
  obtain ⟨hn, ht⟩ := Option.ite_none_left_eq_some.1 h
  obtain rfl := Option.some.inj ht
  exact lookup_append_new t key e (Option.not_isSome_iff_eq_none.1 hn)

/-- … keeps every earlier answer … -/
theorem C18_table_keeps (t t' : Table) (key k' : String) (e : Entry) (h : register t key e = some t') (hne : k' ≠ key) :
    lookupKey t' k' = lookupKey t k' := by
  obtain ⟨_, ht⟩ := Option.ite_none_left_eq_some.1 h
  obtain rfl := Option.some.inj ht
  exact lookup_append_other t key k' e hne

/-- … refuses a second registration of the same name … -/
theorem C18_table_duplicate (t t' : Table) (key : String) (e e2 : Entry) (h : register t key e = some t') :
    register t' key e2 = none :=
  if_pos (Option.isSome_iff_exists.2 ⟨e, C18_table_registered t t' key e h⟩)

/-- … and a dynamic lookup by any spelling with the same normal form gives the same answer -/
theorem C18_table_lookup_normalised (t : Table) (s₁ s₂ : String) (h : TN.normalize s₁ = TN.normalize s₂) :
    lookup t s₁ = lookup t s₂ := by
  unfold lookup; rw [h]

example : (do
    let t ← register [] "Vec < u8 >" ⟨"Vec < u8 >", 12, 4, false⟩
    lookup t "alloc::vec::Vec<u8>") = some ⟨"Vec < u8 >", 12, 4, false⟩ := by decide +kernel

end Truc.Res
