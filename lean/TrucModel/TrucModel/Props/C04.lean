import TrucModel.Proofs.Corollaries
import TrucModel.Proofs.EndToEnd
import TrucModel.Proofs.Reachable
import TrucModel.Generated.Primitives
/-
  C04 — A record gives back exactly the field values that were put into it.
  (1) obligation on the *translated* primitives: every store and every `&mut` goes through a pointer
      derived with write permission (`as_mut_ptr` on `&mut self`) — otherwise the optimiser may drop
      the store (the pinned tree's defect);
  (2) the byte-level memory facts: a stored value is read back; a store leaves every datum whose
      extent is apart from it untouched;
  (3) program level: the generated constructor followed by the generated getters / `unpack` returns the
      values supplied, an assignment through a mutable accessor changes one field;
  (4) the premises of these theorems (`ModuleWF`) hold for the code generated from every definition the
      builder produces from valid requests, under the naming and typing hypotheses listed there.
-/
namespace Truc.Mach
open Truc.Gen Truc.Generated

theorem C04_store_permission :
    primWrite.mutRecv = true ∧ primWrite.ptr = .asMutPtr ∧ primGetMut.mutRecv = true ∧ primGetMut.ptr = .asMutPtr ∧
    primWrite.addsOffset = true ∧ primGetMut.addsOffset = true ∧ primRead.addsOffset = true ∧ primGet.addsOffset = true := by
  decide

/-- … and each of the four primitives is *recognised* by the translator as one plain access of its kind (a store that
    stores the whole value, a load, a shared and a mutable reference): a body that copies the value piecewise, conditionally
    or through anything else the translator does not know leaves this obligation unprovable, whatever it computes -/
theorem C04_primitives_are_plain_accesses :
    (primWrite.access = .ptrWriteUnaligned ∨ primWrite.access = .ptrWrite) ∧
    (primRead.access = .ptrRead ∨ primRead.access = .ptrReadUnaligned) ∧
    primGet.access = .refShared ∧ primGetMut.access = .refMut := by
  decide

/-- what was stored is what is loaded (the store itself succeeds when the target is inside the
    capacity and overwrites no value the record still owns) -/
theorem C04_store_load (dr : String → Bool) (b : Buf) (d : D) (v : Val) (hv : v.ty = d.ty)
    (hcap : d.offset + d.size ≤ b.cap)
    (hfree : ∀ e ∈ b.exts, overlaps e d.offset d.size = true → e.moved = true ∨ dr e.val.ty = false)
    (hfresh : ∀ e ∈ b.exts, overlaps e d.offset d.size = false → keyOf d e = false) :
    ∃ b', b.store dr d v = .ok b' ∧ ∃ b'', b'.load dr d = .ok (v, b'') := by
  refine ⟨_, store_eq v hcap hfree, ?_⟩
  have hfind : (⟨b.cap, stored b.exts (d, v)⟩ : Buf).find d = some (mkExt (d, v)) :=
    find_of_filter_eq (filter_key_stored_self (w := (d, v)) hv hfresh)
  have hload := load_eq (dr := dr) (b := ⟨b.cap, stored b.exts (d, v)⟩) hcap (Or.inl ⟨_, hfind⟩)
  rw [valOf_of_find hfind] at hload
  exact ⟨_, hload⟩

/-- a store changes no other field: whatever was found for a datum apart from the stored one is
    still found, unchanged -/
theorem C04_store_frame (dr : String → Bool) (b b' : Buf) (d d' : D) (v : Val) (hv : v.ty = d.ty)
    (hcap : d.offset + d.size ≤ b.cap)
    (hfree : ∀ e ∈ b.exts, overlaps e d.offset d.size = true → e.moved = true ∨ dr e.val.ty = false)
    (hs : b.store dr d v = .ok b') (hap : Apart d d') : b'.find d' = b.find d' := by
  rw [store_of_ok hs]
  exact find_congr (filter_key_stored (w := (d, v)) hv hap b.exts)

/-- program level. For every variant whose fields have distinct names, pairwise apart extents inside
    the capacity (what C01/C02/C12 give) and for every assignment of values: the generated constructor
    runs without machine error, and afterwards the generated read accessor of *every* field returns
    exactly the value supplied for it. -/
theorem C04_new_get (dr : String → Bool) (cap : Nat) (s : Spec) (hwf : WFData cap s.data) (vals : List Val)
    (hl : vals.length = s.data.length) (hty : ∀ p ∈ s.data.zip vals, p.2.ty = p.1.ty) :
    ∃ b st, call dr cap (ctorNew s) { args := [("from", fieldsOf s.data vals)] } = .ok st ∧ st.result = .record b ∧ st.drops = [] ∧
      ∀ p ∈ s.data.zip vals, ∀ sig,
        call dr cap ⟨sig, [.get p.1]⟩ { self_ := some b } = .ok { self_ := some b, result := .ref p.2, acc := [("get", p.1.offset, p.1.ty)] } := by
  refine ⟨_, _, ctorNew_ok dr cap s hwf vals hl, rfl, rfl, fun p hp sig => ?_⟩
  exact get_ok dr cap sig _ p.1 _ (hwf.inCap p.1 (List.of_mem_zip hp).1) (find_built hwf.apart hty p hp)

/-- … and unpacking it hands back exactly those values, in field order, dropping nothing -/
theorem C04_new_unpack (dr : String → Bool) (cap : Nat) (s : Spec) (hwf : WFData cap s.data) (hrec : "record" ∉ s.data.map (·.name))
    (vals : List Val) (hl : vals.length = s.data.length) (hty : ∀ p ∈ s.data.zip vals, p.2.ty = p.1.ty) :
    ∃ b st st', call dr cap (ctorNew s) { args := [("from", fieldsOf s.data vals)] } = .ok st ∧ st.result = .record b ∧
      call dr cap (unpackFn s) { self_ := some b, selfGlue := some s.data } = .ok st' ∧
      st'.result = .struct ((s.data.map (·.name)).zip vals) none ∧ st'.drops = [] := by
  obtain ⟨st', hu, hr, hd⟩ := unpack_ok dr cap s _ rfl hwf hrec
    (RecInv.built_all dr hwf.apart hl hty)
  rw [map_valOf_built hwf.apart hl hty] at hr
  exact ⟨_, _, st', ctorNew_ok dr cap s hwf vals hl, rfl, hu, hr, hd⟩

/-- a write through one field's mutable accessor changes that field and no other -/
theorem C04_set_frame (dr : String → Bool) (b : Buf) (d : D) (e : Ext) (v : Val) (hv : v.ty = d.ty) (hf : b.find d = some e) :
    (b.assign dr d v).1.find d = some { e with val := v } ∧
    (∀ d', KeyNe d d' → (b.assign dr d v).1.find d' = b.find d') ∧
    (b.assign dr d v).2 = (if dr d.ty then [e.val] else []) :=
  have h := assign_ok dr b d e v hv hf
  ⟨h.2.1, h.2.2, h.1⟩

/-- end to end. The premises (`ModuleWF`) of the generated-code theorems C04–C07 hold for the code
    generated from *every* definition built by a valid request history (any strategies, C01/C02/C12
    supply disjointness, capacity and unique names), for every capacity at least `max_size()`, provided
    the naming / typing hypotheses: no field is called `record`, only plain-old-data may stay
    uninitialised, zero-size fields are droppable markers and no two of the same type sit at the
    same address of one variant. -/
theorem C04_premises_hold_for_builder_output (dr : String → Bool) (reqs : List Req) (hv : ∀ r ∈ reqs, r.valid)
    (d : Definition) (hb : (Truc.run reqs).build = some d) (ms cap : Nat) (hms : d.maxSize = some ms) (hcap : ms ≤ cap)
    (hzk : ∀ v ∈ d.variants, ∀ a ∈ v, ∀ b ∈ v, a ≠ b → sz d.defs a = 0 → sz d.defs b = 0 → off d.defs a = off d.defs b →
      minTok (info d.defs a).ty ≠ minTok (info d.defs b).ty)
    (hnr : ∀ i ∈ d.defs, i.name ≠ "record") (hpod : ∀ i ∈ d.defs, i.uninit = true → dr (minTok i.ty) = false)
    (hzd : ∀ i ∈ d.defs, i.size = 0 → dr (minTok i.ty) = true) :
    ModuleWF dr cap (specs d) := by
  obtain rfl := BState.build_eq_some hb
  have hinv := reachable_BInv_NInv reqs hv
  exact specs_moduleWF ⟨hinv.1.vinv, hinv.2.variants, fun v hvm id hid => Nat.le_trans (maxSize_ge hms hvm hid) hcap,
    hzk, hnr, hpod, hzd⟩

/-- … hence the executable premise check the driver evaluates on every compiled module (`xmod` answers `wf=…`, decided to be
    `ModuleWF` by `C07_premise_check_decides`) must answer `true` on every such definition: the count of modules on which it does is
    in the evidence (`modules_meeting_theorem_hypotheses`); modules with a field called `record` are the ones it refuses -/
theorem C04_premise_check_accepts_builder_output (dr : String → Bool) (reqs : List Req) (hv : ∀ r ∈ reqs, r.valid)
    (d : Definition) (hb : (Truc.run reqs).build = some d) (ms cap : Nat) (hms : d.maxSize = some ms) (hcap : ms ≤ cap)
    (hzk : ∀ v ∈ d.variants, ∀ a ∈ v, ∀ b ∈ v, a ≠ b → sz d.defs a = 0 → sz d.defs b = 0 → off d.defs a = off d.defs b →
      minTok (info d.defs a).ty ≠ minTok (info d.defs b).ty)
    (hnr : ∀ i ∈ d.defs, i.name ≠ "record") (hpod : ∀ i ∈ d.defs, i.uninit = true → dr (minTok i.ty) = false)
    (hzd : ∀ i ∈ d.defs, i.size = 0 → dr (minTok i.ty) = true) :
    moduleWFB dr cap (specs d) = true :=
  (moduleWFB_iff dr cap (specs d)).2 (C04_premises_hold_for_builder_output dr reqs hv d hb ms cap hms hcap hzk hnr hpod hzd)

/-- non-vacuity: two adjacent fields, one odd-sized -/
example : (match (do
    let b ← (⟨8, []⟩ : Buf).store (fun _ => false) ⟨0, "a", "P3", 3, 1, 0, false⟩ ⟨7, "P3"⟩
    let b ← b.store (fun _ => false) ⟨1, "b", "P4", 4, 4, 4, false⟩ ⟨9, "P4"⟩
    pure ((b.find ⟨0, "a", "P3", 3, 1, 0, false⟩).map (·.val.id), (b.find ⟨1, "b", "P4", 4, 4, 4, false⟩).map (·.val.id)) : Except MErr _) with
    | .ok r => r == (some 7, some 9)
    | .error _ => false) = true := by decide +kernel

end Truc.Mach
