import TrucModel.Generated.Primitives
import TrucModel.Proofs.Reachable
/-
  C07 — Generated code only touches storage it owns, aligned, with the right type.
-/
namespace Truc.Mach
open Truc.Gen Truc.Generated

/-- constructors and conversions store into a *bare local* buffer (`RecordMaybeUninit<CAP>`, alignment
    1): the store primitive must therefore not require alignment.  Decided on the translated source. -/
theorem C07_store_tolerates_misalignment : primWrite.access = .ptrWriteUnaligned := by decide

/-- typed loads and references do require alignment … -/
theorem C07_loads_are_typed : primRead.access = .ptrRead ∧ primGet.access = .refShared ∧ primGetMut.access = .refMut := by
  decide

/-- … and have it: they are only issued on the buffer *inside* a `#[repr(align(A))]` record, whose
    address is a multiple of `A` wherever it lives; `A` is a multiple of the field's alignment
    (C02_record_align) which divides the field's offset (C02_aligned). -/
theorem C07_aligned_access (base off a A : Nat) (hbase : A ∣ base) (haA : a ∣ A) (hoff : a ∣ off) : a ∣ base + off :=
  Nat.dvd_add (Nat.dvd_trans haA hbase) hoff

/-- every access lies inside the capacity: the machine's `oob` error needs `off + size > cap` -/
theorem C07_in_bounds (dr : String → Bool) (b : Buf) (d : D) (h : d.offset + d.size ≤ b.cap) :
    b.load dr d ≠ .error .oob := by
  unfold Buf.load
  rw [if_neg (Nat.not_lt.2 h)]
  cases b.find d with
  | some e => simp
  | none => by_cases hd : dr d.ty = true <;> simp [hd]

/-- no machine error, ever. The machine's errors are exactly the property's clauses (`oob`: outside
    the capacity; `readMoved`: a droppable value read where none of that type is currently stored /
    already moved out; `storeOverOwned`: a store landing on a value the record still owns;
    `doubleFree`: drop glue finding a moved value).  On every record reached by any sequence of
    constructor / conversion / write, of a well-formed module with any capacity `cap` (= `MAX_SIZE` or
    larger): dropping, unpacking, every read accessor and every conversion form run to completion. -/
theorem C07_no_machine_error (dr : String → Bool) (cap : Nat) (specs : List Spec) (hm : ModuleWF dr cap specs)
    (k : Nat) (b : Buf) (h : Reach dr cap specs k b) :
    ∃ s, specs[k]? = some s ∧
      (∃ st, call dr cap (dropFn s) { self_ := some b } = .ok st) ∧
      ("record" ∉ s.data.map (·.name) → ∃ st, call dr cap (unpackFn s) { self_ := some b, selfGlue := some s.data } = .ok st) ∧
      (∀ d ∈ s.data, ∀ sig, ∃ st, call dr cap ⟨sig, [.get d]⟩ { self_ := some b } = .ok st) ∧
      (∀ s', specs[k + 1]? = some s' → ∀ uninit andOut vals, vals.length = (plusWritten s' uninit).length →
        (∀ p ∈ (plusWritten s' uninit).zip vals, p.2.ty = p.1.ty) →
        ∃ st, call dr cap (convFn s' uninit andOut)
          { from_ := some b, fromGlue := some s.data, args := [("plus", fieldsOf (plusWritten s' uninit) vals)] } = .ok st) := by
  obtain ⟨s, hs, hc, hinv⟩ := reach_inv dr cap specs hm k b h
  have hwf := hm.data s (List.mem_of_getElem? hs)
  refine ⟨s, hs, ?_, ?_, ?_, ?_⟩
  · obtain ⟨st, h1, _⟩ := drop_ok dr cap s b hc hwf hinv; exact ⟨st, h1⟩
  · intro hrec; obtain ⟨st, h1, _⟩ := unpack_ok dr cap s b hc hwf hrec hinv; exact ⟨st, h1⟩
  · intro d hd sig; exact ⟨_, get_loadable dr cap sig b d (hc ▸ hwf.inCap d hd) (hinv.loadable d hd)⟩
  · intro s' hs' uninit andOut vals hl hty
    obtain ⟨hcw, hrec, hpod, hz⟩ := hm.convPremises hs hs'
    obtain ⟨b2, st, hcall, _⟩ := conv_ok dr cap s s' uninit andOut hcw b hc hinv hrec hpod hz vals hl hty
    exact ⟨st, hcall⟩

/-- the executable premise check the driver evaluates on every compiled module (`xmod` answers `wf=…`) decides
    `ModuleWF` exactly, so wherever it answered `true` the theorem above applies to that very module … -/
theorem C07_premise_check_decides (dr : String → Bool) (cap : Nat) (specs : List Spec) :
    moduleWFB dr cap specs = true ↔ ModuleWF dr cap specs :=
  moduleWFB_iff dr cap specs

/-- … in one statement: a module that passes the check has no machine error on any reachable record -/
theorem C07_checked_module_no_error (dr : String → Bool) (cap : Nat) (specs : List Spec)
    (hchk : moduleWFB dr cap specs = true) (k : Nat) (b : Buf) (h : Reach dr cap specs k b) :
    ∃ s, specs[k]? = some s ∧ (∃ st, call dr cap (dropFn s) { self_ := some b } = .ok st) ∧
      (∀ d ∈ s.data, ∀ sig, ∃ st, call dr cap ⟨sig, [.get d]⟩ { self_ := some b } = .ok st) := by
  obtain ⟨s, hs, hd, _, hg, _⟩ := C07_no_machine_error dr cap specs ((moduleWFB_iff dr cap specs).1 hchk) k b h
  exact ⟨s, hs, hd, hg⟩

/-- non-vacuity: the check accepts a two-variant module (a carried-over field, one removed, one added) and rejects one whose
    fields overlap -/
example :
    let a : D := ⟨0, "a", "u32", 4, 4, 0, false⟩
    let b : D := ⟨1, "b", "String", 24, 8, 8, false⟩
    let c : D := ⟨2, "c", "u16", 2, 2, 4, true⟩
    let c' : D := ⟨2, "c", "u16", 2, 2, 2, true⟩
    moduleWFB (fun t => t == "String") 32 [⟨0, 8, [a, b], [], [], false, 0⟩, ⟨1, 4, [a, c], [b], [c], true, 0⟩] = true ∧
    moduleWFB (fun t => t == "String") 32 [⟨0, 8, [a, b], [], [], false, 0⟩, ⟨1, 4, [a, c'], [b], [c'], true, 0⟩] = false := by
  decide +kernel

example : (4 : Nat) ∣ 64 + 12 := C07_aligned_access 64 12 4 16 (by decide) (by decide) (by decide)

end Truc.Mach
