import TrucModel.Props.Examples
/- The state the example history of `Props/Examples.lean` leads to, evaluated once for the examples of the property files. -/
namespace Truc

theorem Ex.run_h1 : run Ex.h1 =
    { defs := [⟨"a", "t", 4, 4, 0, false⟩, ⟨"z", "t", 0, 2, 8, false⟩, ⟨"b", "t", 3, 1, 4, false⟩,
               ⟨"c", "t", 12, 4, 8, false⟩, ⟨"d", "t", 1, 1, 20, false⟩, ⟨"e", "t", 2, 2, 22, false⟩],
      variants := [[0, 2, 1], [2, 1, 3, 4], [2, 1, 3, 4, 5]] } := by
  decide +kernel

end Truc
