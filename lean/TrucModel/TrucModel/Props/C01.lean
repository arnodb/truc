import TrucModel.Proofs.Corollaries
import TrucModel.Props.ExampleRun
/-
  C01 — No two data of a record variant ever share a byte.
  For every history of add / remove / close requests (any length, any removals, every close choosing
  its own strategy among the four shipped native ones, any sizes incl. 0 and odd sizes, any positive
  alignment — a superset of the powers of two 1..16), in every variant of the resulting state, the
  byte ranges of any two distinct data are disjoint.  (Stronger than asked: zero-size data too sit
  outside every other datum's interior.)
-/
namespace Truc

theorem C01_disjoint (reqs : List Req) (hv : ∀ r ∈ reqs, r.valid) :
    ∀ v ∈ (run reqs).variants, ∀ a ∈ v, ∀ b ∈ v, a ≠ b →
      off (run reqs).defs a + sz (run reqs).defs a ≤ off (run reqs).defs b ∨
      off (run reqs).defs b + sz (run reqs).defs b ≤ off (run reqs).defs a :=
  fun v hvm _ ha _ hb hne => ((reachable_BInv reqs hv).vinv v hvm).disjoint ha hb hne

/-- the strategies never hit one of their panic sites on such a history (so the state above is the
    state the real builder reaches) -/
theorem C01_no_strategy_panic (reqs : List Req) (hv : ∀ r ∈ reqs, r.valid) (r : Req) (hr : r.valid) :
    stepPanics (run reqs) r = false :=
  ((reachable_BInv reqs hv).step hr).2

/-- the property in its literal byte form: in a definition built from any valid history, no byte of
    the record buffer belongs to two different data of one variant (zero-size data own no byte, so
    the statement is about data of non-zero size exactly as the property says) -/
theorem C01_no_shared_byte (reqs : List Req) (hv : ∀ r ∈ reqs, r.valid) (def_ : Definition)
    (hb : (run reqs).build = some def_) :
    ∀ v ∈ def_.variants, ∀ a ∈ v, ∀ b ∈ v, ∀ x : Nat,
      off def_.defs a ≤ x → x < off def_.defs a + sz def_.defs a →
      off def_.defs b ≤ x → x < off def_.defs b + sz def_.defs b → a = b := by
  intro v hvm a ha b hbm x h1 h2 h3 h4
  refine Decidable.byContradiction fun hne => ?_
  rcases (built_inv hv hb v hvm).disjoint ha hbm hne with h | h
  · exact Nat.lt_irrefl x (Nat.lt_of_lt_of_le h2 (Nat.le_trans h h3))
  · exact Nat.lt_irrefl x (Nat.lt_of_lt_of_le h4 (Nat.le_trans h h1))

/-- non-vacuity: a mixed-strategy history meets the hypothesis and produces three non-trivial variants -/
example : (∀ r ∈ Ex.h1, r.valid) ∧
    (run Ex.h1).variants = [[0, 2, 1], [2, 1, 3, 4], [2, 1, 3, 4, 5]] ∧
    (run Ex.h1).defs.map (·.offset) = [0, 8, 4, 8, 20, 22] := by
  rw [Ex.run_h1]
  exact ⟨by decide, rfl, rfl⟩

end Truc
