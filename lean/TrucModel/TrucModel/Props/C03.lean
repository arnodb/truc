import TrucModel.Props.C02
/-
  C03 — A datum never moves; all variants of a record have one size and alignment.
  First half (builder): once a variant is closed, the whole description (offset, size, alignment,
  name, type) of each of its data is the same in every later state, whatever is requested later.
  Second half (generated record types): `C03_same_layout` and the theorems after it.
-/
namespace Truc

theorem C03_offset_stable (pre suf : List Req) (hv : ∀ r ∈ pre ++ suf, r.valid) :
    ∀ v ∈ (run pre).variants, v ∈ (run (pre ++ suf)).variants ∧
      ∀ d ∈ v, info (run (pre ++ suf)).defs d = info (run pre).defs d := by
  have hpre : ∀ r ∈ pre, r.valid := fun r hr => hv r (List.mem_append_left _ hr)
  have hsuf : ∀ r ∈ suf, r.valid := fun r hr => hv r (List.mem_append_right _ hr)
  have hst := foldl_step_stable suf (run pre) (reachable_BInv pre hpre) hsuf
  rw [run_append]
  intro v hvm
  exact ⟨hst.variants v hvm, hst.infos v hvm⟩

/-- second half: all record types generated for one definition have the same size and alignment, for
    `CAP = MAX_SIZE` and any larger `CAP`: every variant's record struct is `#[repr(align(A))]` with the
    *same* `A` (`C02_published`) around the same single field of `CAP` bytes, hence the same layout
    `(roundUp CAP A, A)` — rustc's `repr(align)` rule is the modelled part (validated by channel X `sizes`). -/
theorem C03_same_layout (d : Definition) (cap : Nat) (s₁ s₂ : Gen.Spec) (h₁ : s₁ ∈ Gen.specs d) (h₂ : s₂ ∈ Gen.specs d) :
    Gen.recLayout cap s₁.align = Gen.recLayout cap s₂.align ∧ Gen.fragRecord s₁ = Gen.fragRecord { s₂ with vid := s₁.vid } := by
  have a₁ := Gen.specs_align d s₁ h₁
  have a₂ := Gen.specs_align d s₂ h₂
  refine ⟨by rw [a₁, a₂], ?_⟩
  simp [Gen.fragRecord, a₁, a₂]

/-- the modelled record layout `(roundUp CAP A, A)` has room for `CAP` bytes, wastes less than `A`
    bytes and its size is a multiple of its alignment -/
theorem C03_layout_holds_capacity (cap A : Nat) (hA : 0 < A) :
    cap ≤ (Gen.recLayout cap A).1 ∧ (Gen.recLayout cap A).1 < cap + A ∧ A ∣ (Gen.recLayout cap A).1 :=
  ⟨le_alignUp cap A hA, alignUp_lt cap A hA, alignUp_dvd cap A⟩

/-- "vectors of them can be converted in place", at the level of addresses: in a vector of records of
    *any* variant `s` of a definition built from a valid history, whose buffer starts at a record-aligned
    address `base`, element `i` starts at `base + i * size` with the same `size` for every variant, and
    inside that element every datum of every variant sits at an address that is a multiple of its own
    alignment and ends inside the element -/
theorem C03_vec_element_addresses (reqs : List Req) (hv : ∀ r ∈ reqs, r.valid) (def_ : Definition)
    (hb : (run reqs).build = some def_) (hp : ∀ i ∈ def_.defs, IsPow2 i.align)
    (m : Nat) (hm : def_.maxSize = some m) (cap : Nat) (hcap : m ≤ cap) (hA : 0 < def_.maxTypeAlign)
    (base : Nat) (hbase : def_.maxTypeAlign ∣ base) (i : Nat)
    (s : Gen.Spec) (hs : s ∈ Gen.specs def_) :
    (Gen.recLayout cap s.align).1 = (Gen.recLayout cap def_.maxTypeAlign).1 ∧
    ∀ v ∈ def_.variants, ∀ d ∈ v,
      al def_.defs d ∣ base + i * (Gen.recLayout cap s.align).1 + off def_.defs d ∧
      base + i * (Gen.recLayout cap s.align).1 + off def_.defs d + sz def_.defs d
        ≤ base + (i + 1) * (Gen.recLayout cap s.align).1 := by
  rw [Gen.specs_align def_ s hs]
  refine ⟨rfl, ?_⟩
  intro v hvm d hd
  obtain ⟨hge, _, hdvd⟩ := C03_layout_holds_capacity cap def_.maxTypeAlign hA
  have hbase' : def_.maxTypeAlign ∣ base + i * (Gen.recLayout cap def_.maxTypeAlign).1 :=
    Nat.dvd_add hbase (Nat.dvd_trans hdvd (Nat.dvd_mul_left _ _))
  refine ⟨(C02_address_aligned_contained reqs hv def_ hb hp m hm _ hbase' v hvm d hd).1, ?_⟩
  have hfit : off def_.defs d + sz def_.defs d ≤ (Gen.recLayout cap def_.maxTypeAlign).1 :=
    Nat.le_trans (C02_contained reqs def_ hb m hm v hvm d hd) (Nat.le_trans hcap hge)
  rw [Nat.add_assoc]
  exact vec_elem_end_le hfit base (Nat.lt_succ_self i)

/-- and the elements of such a vector do not run into each other, whichever variants they hold
    (during an in-place conversion the front elements are already of the new variant, the back ones
    still of the old): every datum of element `i` ends at or before the start of element `j > i`,
    hence before every datum of element `j` -/
theorem C03_vec_elements_disjoint (reqs : List Req) (def_ : Definition)
    (hb : (run reqs).build = some def_) (m : Nat) (hm : def_.maxSize = some m) (cap : Nat) (hcap : m ≤ cap)
    (hA : 0 < def_.maxTypeAlign) (base i j : Nat) (hij : i < j) :
    ∀ v ∈ def_.variants, ∀ d ∈ v, ∀ d' : Nat,
      base + i * (Gen.recLayout cap def_.maxTypeAlign).1 + off def_.defs d + sz def_.defs d
        ≤ base + j * (Gen.recLayout cap def_.maxTypeAlign).1 + off def_.defs d' := by
  intro v hvm d hd d'
  have hfit : off def_.defs d + sz def_.defs d ≤ (Gen.recLayout cap def_.maxTypeAlign).1 :=
    Nat.le_trans (C02_contained reqs def_ hb m hm v hvm d hd)
      (Nat.le_trans hcap (C03_layout_holds_capacity cap def_.maxTypeAlign hA).1)
  rw [Nat.add_assoc]
  exact Nat.le_trans (vec_elem_end_le hfit base hij) (Nat.le_add_right _ _)

/-- non-vacuity of `C03_vec_element_addresses`: the example definition has capacity 24 under alignment 4
    (validity of the history and powers of two: see the examples of C01 and C02) -/
example : ((run Ex.h1).build.map (·.maxTypeAlign)) = some 4 ∧ ((run Ex.h1).build.bind (·.maxSize)) = some 24 ∧
    Gen.recLayout 24 4 = (24, 4) ∧ Gen.recLayout 30 4 = (32, 4) ∧
    ((run Ex.h1).build.map (fun d => (Gen.specs d).length)) = some 3 := by
  rw [Ex.run_h1]
  decide +kernel

/-- non-vacuity: the first variant of the example history survives two more closes unchanged -/
example : (run (Ex.h1.take 4)).variants = [[0, 2, 1]] ∧ [0, 2, 1] ∈ (run Ex.h1).variants := by
  rw [Ex.run_h1]
  decide +kernel

end Truc
