import TrucModel.Proofs.StaticProps
/-
  C14 — A record is sendable or shareable across threads only if all its fields are.
  Full statement: `recordSend env s ↔ ∀ x ∈ s.data, env.send x.ty` (same for `Sync`), under the
  structural auto-trait rule.  The `←` direction holds; the `→` direction is FALSE of the code as it
  is: every generated record struct has the single field `data: RecordMaybeUninit<CAP>` (raw bytes)
  and no marker of its field types, so it is `Send + Sync` whatever it stores.  Known finding K1
  (not repairable without changing the emitted struct, which the unedited tests compare).
-/
namespace Truc.Static
open Truc.Gen

/-- "it can whenever all of them can" -/
theorem C14_if_partial (env : TyEnv) (s : Spec) (_h : ∀ x ∈ s.data, env.send x.ty = true ∧ env.sync x.ty = true) :
    recordSend env s = true ∧ recordSync env s = true :=
  ⟨recordSend_eq_true env s, recordSync_eq_true env s⟩

/-- "only if": refuted by a record holding an `Rc` -/
theorem C14_only_if_refuted :
    ∃ (env : TyEnv) (s : Spec), recordSend env s = true ∧ recordSync env s = true ∧
      ∃ x ∈ s.data, env.send x.ty = false ∧ env.sync x.ty = false :=
  ⟨{ size := fun _ => 8, align := fun _ => 8, copy := fun _ => false, send := fun _ => false, sync := fun _ => false },
   { vid := 0, align := 8, data := [⟨0, "rc", "std::rc::Rc<u8>", 8, 8, 0, false⟩], minus := [], plus := [], hasPrev := false, prevVid := 0 },
   recordSend_eq_true .., recordSync_eq_true .., _, List.mem_singleton.2 rfl, rfl, rfl⟩

/-- the emitted record struct indeed has that single byte-buffer field, for every variant -/
theorem C14_record_struct_shape (s : Spec) :
    fragRecord s = [.raw (s!"#[repr(align({s.align}))]pub struct {capped s.vid}<{CAPG}>" ++ "{data:RecordMaybeUninit<CAP>,}"),
                    .raw (s!"pub type Record{s.vid}={capped s.vid}<" ++ "{MAX_SIZE}>;")] := rfl

end Truc.Static
