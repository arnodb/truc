import TrucModel.Proofs.MachineWFProps
/- A concrete two-variant module used by the non-vacuity examples of C05–C07: variant 1 removes the
   heap field `a` and adds the 8-byte field `n` on the very same bytes; `k` is carried over. -/
namespace Truc.Mach.Ex
open Truc.Gen

def dr (t : String) : Bool := t == "H"
def a : D := ⟨0, "a", "H", 8, 8, 0, false⟩
def k : D := ⟨1, "k", "P4", 4, 4, 8, false⟩
def n : D := ⟨2, "n", "P8", 8, 8, 0, false⟩
def s0 : Spec := { vid := 0, align := 8, data := [a, k], minus := [], plus := [a, k], hasPrev := false, prevVid := 0 }
def s1 : Spec := { vid := 1, align := 8, data := [k, n], minus := [a], plus := [n], hasPrev := true, prevVid := 0 }
def specs : List Spec := [s0, s1]

theorem moduleWF : ModuleWF dr 16 specs := (moduleWFB_iff dr 16 specs).1 (by decide +kernel)

end Truc.Mach.Ex
