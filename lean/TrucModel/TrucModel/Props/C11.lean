import TrucModel.Proofs.StaticProps
/-
  C11 — Wrong type information or a non-Copy uninitialisable field cannot compile.
  `accepts env d` = every emitted const assertion holds under the compiler's real sizes and
  alignments `env`, and every type substituted at an emitted `T: Copy` turbofish is `Copy` — the
  modelled compiler rules (validated by compile probes).
-/
namespace Truc.Static
open Truc.Gen

/-- a datum (of any variant, introduced in any variant) whose recorded size differs from the real
    size of its type makes the generated module fail to compile -/
theorem C11_size (env : TyEnv) (d : Definition) (v : List Nat) (hv : v ∈ d.variants) (id : Nat) (hid : id ∈ v)
    (hbad : env.size (mkD d.defs id).ty ≠ (mkD d.defs id).size) : ¬ accepts env d := by
  intro hacc
  obtain ⟨s, hs, hm⟩ := specs_plus d v hv id hid
  exact hbad (((accepts_iff env d).1 hacc s hs).1 _ hm)

/-- the same for the recorded alignment -/
theorem C11_align (env : TyEnv) (d : Definition) (v : List Nat) (hv : v ∈ d.variants) (id : Nat) (hid : id ∈ v)
    (hbad : env.align (mkD d.defs id).ty ≠ (mkD d.defs id).align) : ¬ accepts env d := by
  intro hacc
  obtain ⟨s, hs, hm⟩ := specs_data d v hv id hid
  exact hbad (((accepts_iff env d).1 hacc s hs).2.1 _ hm)

/-- a datum declared as allowed to stay uninitialised whose type is not `Copy` makes the module fail
    to compile (the `new_uninit` constructor of its variant instantiates the `T: Copy` helper with it) -/
theorem C11_copy (env : TyEnv) (d : Definition) (v : List Nat) (hv : v ∈ d.variants) (id : Nat) (hid : id ∈ v)
    (hun : (mkD d.defs id).uninit = true) (hbad : env.copy (mkD d.defs id).ty = false) : ¬ accepts env d := by
  intro hacc
  obtain ⟨s, hs, hm⟩ := specs_data d v hv id hid
  exact Bool.eq_false_iff.1 hbad (((accepts_iff env d).1 hacc s hs).2.2 _ (.inl hm) hun)

/-- conversely: nothing else is demanded — with correct information the three rules accept -/
theorem C11_accepts_when_right (env : TyEnv) (d : Definition)
    (hok : ∀ s ∈ specs d, ∀ x ∈ s.data, env.size x.ty = x.size ∧ env.align x.ty = x.align ∧ (x.uninit = true → env.copy x.ty = true))
    (hplus : ∀ s ∈ specs d, ∀ x ∈ s.plus, x ∈ s.data) : accepts env d :=
  (accepts_iff env d).2 fun s hs => ⟨fun x hx => (hok s hs x (hplus s hs x hx)).1, fun x hx => (hok s hs x hx).2.1,
    fun x hx hu => (hok s hs x (hx.elim id fun h => hplus s hs x h.2)).2.2 hu⟩

/-- the assertions are really in the emitted module -/
theorem C11_assertions_emitted (d : Definition) (cfg : Cfg) (items : List Item) (h : module d cfg = some items) :
    (∀ p ∈ sizeAsserts d, Item.raw s!"const_assert_eq!(std::mem::size_of::<{p.1}>(),{p.2});" ∈ items) ∧
    (∀ p ∈ alignAsserts d, Item.raw s!"const_assert_eq!(std::mem::align_of::<{p.1}>(),{p.2});" ∈ items) := by
  unfold module at h
  split at h
  · cases h
  · obtain rfl := Option.some.inj h
    -- the assertions are the last two of the six parts of the module
    exact ⟨fun p hp => List.mem_append_left _ <| List.mem_append_right _ <| List.mem_map.2 ⟨p, hp, rfl⟩,
      fun p hp => List.mem_append_right _ <| List.mem_map.2 ⟨p, hp, rfl⟩⟩

/-- non-vacuity: one `u32`-like field recorded with alignment 8 -/
example : ¬ accepts { size := fun _ => 4, align := fun _ => 4, copy := fun _ => true, send := fun _ => true, sync := fun _ => true }
    ⟨[⟨"a", "P4", 4, 8, 0, false⟩], [[0]]⟩ :=
  C11_align _ _ [0] (by simp) 0 (by simp) (by decide)

end Truc.Static
