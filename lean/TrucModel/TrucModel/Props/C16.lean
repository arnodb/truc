import TrucModel.Proofs.CloneSerdeProps
/-
  C16 — A cloned record is an equal, independent copy.
  The field types' `Clone` is a parameter `cl`; "equal" = every field of the clone is the clone
  (`cl`) of the source's field, bit copy for may-be-uninit (`Copy`) fields; "independent" = the clone is
  built by the full constructor in a fresh buffer (channel X checks mutation / drop of either side on
  compiled code); a panic inside a field's `clone()` drops exactly the clones built so far.
-/
namespace Truc.Frag
open Truc.Gen Truc.Mach

theorem cloneFields_ok (dr : String → Bool) (cl : Val → Val) : ∀ (fs : List (D × Val)) (acc : List Val),
    cloneFields dr cl (fun _ => false) fs acc = .ok (acc ++ fs.map fun p => if p.1.uninit then p.2 else cl p.2) := by
  intro fs acc
  have := cloneFields_append dr cl (fun _ => false) [] fs acc fun _ _ => .inr rfl
  rwa [List.append_nil] at this

/-- without a panicking field, the clone's fields are the clones of the source's fields, in order -/
theorem C16_clone_equal (dr : String → Bool) (cl : Val → Val) (fs : List (D × Val)) :
    cloneFields dr cl (fun _ => false) fs [] = .ok (fs.map fun p => if p.1.uninit then p.2 else cl p.2) := by
  simpa using cloneFields_ok dr cl fs []

/-- a panic in the clone of the first field the bomb matches: nothing but the clones already built
    is dropped, each once (the source is not touched: `cloneFields` only reads it) -/
theorem C16_panic_safe (dr : String → Bool) (cl : Val → Val) (bomb : Val → Bool)
    (pre : List (D × Val)) (d : D) (v : Val) (post : List (D × Val))
    (hpre : ∀ p ∈ pre, p.1.uninit = true ∨ bomb p.2 = false) (hd : d.uninit = false) (hv : bomb v = true) :
    cloneFields dr cl bomb (pre ++ (d, v) :: post) [] =
      .panicked pre.length ((pre.map fun p => if p.1.uninit then p.2 else cl p.2).filter fun x => dr x.ty) := by
  rw [cloneFields_append dr cl bomb _ pre [] hpre]
  simp [cloneFields, hd, hv]

/-- clone-assignment: the target's fields become the clones of the source's, and each previous
    droppable field value of the target is dropped exactly once -/
theorem C16_clone_from (dr : String → Bool) (cl : Val → Val) (fs : List (D × Val × Val)) :
    (cloneFromFields dr cl fs).1 = fs.map (fun p => if p.1.uninit then p.2.1 else cl p.2.1) ∧
    (cloneFromFields dr cl fs).2 = (fs.filter fun p => dr p.1.ty).map (fun p => p.2.2) := by
  induction fs with
  | nil => exact ⟨rfl, rfl⟩
  | cons p rest ih =>
    simp only [cloneFromFields, List.filter_cons, ih.1, ih.2]
    cases dr p.1.ty <;> exact ⟨rfl, rfl⟩

/-- a panic inside a field's clone during clone-assignment: the fields before it hold the clones of the source's and
    their previous droppable values were dropped exactly once; the panicking field and every later one still hold what
    they held; nothing else was dropped — the record is whole (one value per field) and nothing is lost or dropped twice -/
theorem C16_clone_from_panic_safe (dr : String → Bool) (cl : Val → Val) (bomb : Val → Bool) (fs : List (D × Val × Val))
    (k : Nat) (h : (cloneFromBomb dr cl bomb fs).2.2 = some k) :
    (cloneFromBomb dr cl bomb fs).1 =
      (fs.take k).map (fun p => if p.1.uninit then p.2.1 else cl p.2.1) ++ (fs.drop k).map (fun p => p.2.2) ∧
    (cloneFromBomb dr cl bomb fs).2.1 = ((fs.take k).filter fun p => dr p.1.ty).map (fun p => p.2.2) ∧
    (∃ p, fs[k]? = some p ∧ p.1.uninit = false ∧ bomb p.2.1 = true) := by
  rw [cloneFromBomb_eq dr cl bomb fs _ rfl] at h ⊢
  obtain ⟨hk, rfl⟩ := List.findIdx?_eq_some_iff_findIdx_eq.1 h
  rw [(C16_clone_from dr cl _).1, (C16_clone_from dr cl _).2]
  exact ⟨rfl, rfl, _, List.getElem?_eq_getElem hk, by simpa using List.findIdx_getElem (w := hk)⟩

/-- without a panicking clone it is the plain clone-assignment -/
theorem C16_clone_from_no_panic (dr : String → Bool) (cl : Val → Val) (fs : List (D × Val × Val)) :
    cloneFromBomb dr cl (fun _ => false) fs = ((cloneFromFields dr cl fs).1, (cloneFromFields dr cl fs).2, none) := by
  rw [cloneFromBomb_eq dr cl _ fs fs.length (List.findIdx_eq_length_of_false fun _ _ => Bool.and_false _)]
  simp

example : cloneFromBomb (fun t => t == "H") (fun v => { v with id := v.id + 1000000 }) (fun v => v.id == 7)
    [(⟨0, "a", "H", 8, 8, 0, false⟩, ⟨5, "H"⟩, ⟨1, "H"⟩), (⟨1, "b", "P4", 4, 4, 8, true⟩, ⟨9, "P4"⟩, ⟨2, "P4"⟩),
     (⟨2, "c", "H", 8, 8, 16, false⟩, ⟨7, "H"⟩, ⟨3, "H"⟩), (⟨3, "d", "H", 8, 8, 24, false⟩, ⟨8, "H"⟩, ⟨4, "H"⟩)]
    = ([⟨1000005, "H"⟩, ⟨9, "P4"⟩, ⟨3, "H"⟩, ⟨4, "H"⟩], [⟨1, "H"⟩], some 2) := by decide +kernel

example : cloneFields (fun t => t == "H") (fun v => { v with id := v.id + 1000000 }) (fun v => v.id == 7)
    [(⟨0, "a", "H", 8, 8, 0, false⟩, ⟨5, "H"⟩), (⟨1, "b", "P4", 4, 4, 8, true⟩, ⟨9, "P4"⟩), (⟨2, "c", "H", 8, 8, 16, false⟩, ⟨7, "H"⟩)] []
    = .panicked 2 [⟨1000005, "H"⟩] := by decide +kernel

end Truc.Frag
