import TrucModel.Proofs.ReplaySource
import TrucModel.Props.ExampleRun
/-
  C20 — Replaying a definition into another builder preserves variants and data.

  `C20_replay`: for every source definition built by a valid history and every target strategy
  (the four native ones and the two generic ones), `convert_record_definition`
    * succeeds (no error from the target builder, no indexing panic, no strategy panic),
    * creates exactly one target variant per source variant and returns the map k ↦ k,
    * leaves the target buildable,
    * relates source and target data by a single injective id map `F r.idMap`: target variant k is a
      permutation of the image of source variant k under that one map, for every k — so a source datum
      corresponds to the same target datum in all the variants it spans,
    * and corresponding data have the same name, type, size, alignment and uninit flag.
  `C20_same_type_information` restates the pairing as equality of the multisets of type information.
  `C20_map_keys_any_source` (weaker, but for *any* source, whenever the replay succeeds): one key per source variant, in order.
  The premise `SrcChain` (ids never reused, consecutive variants differ, names unique per variant) is
  proved for every builder output in `Proofs/ReplaySource.lean`.
-/
namespace Truc

/-- name, type, size, alignment, uninit flag -/
def shapeOf (i : Info) : String × String × Nat × Nat × Bool := (i.name, i.ty, i.size, i.align, i.uninit)

theorem C20_replay (reqs : List Req) (hv : ∀ r ∈ reqs, r.valid) (src : Definition)
    (hb : (run reqs).build = some src) (st : Strategy) :
    ∃ r, replay src st = .ok r ∧
      r.tgt.variants.length = src.variants.length ∧
      r.vMap = (List.range src.variants.length).map (fun k => (k, k)) ∧
      r.tgt.canBuild = true ∧
      (∀ (k : Nat) (t v : List Nat), r.tgt.variants[k]? = some t → src.variants[k]? = some v →
        t.Perm (v.map (F r.idMap))) ∧
      (∀ d ∈ src.variants.flatten, ∃ d', r.idMap.lookup d = some d' ∧ d' < r.tgt.defs.length ∧
        sameShape (info r.tgt.defs d') (info src.defs d)) ∧
      (∀ d1 ∈ src.variants.flatten, ∀ d2 ∈ src.variants.flatten, F r.idMap d1 = F r.idMap d2 → d1 = d2) := by
  obtain ⟨r, hr, hinv⟩ := replay_ok src st (builder_srcChain reqs hv src hb)
  refine ⟨r, hr, hinv.len, hinv.vMap, ?_, fun k t v ht hv' => ?_, ?_, hinv.sim.map.inj⟩
  · unfold BState.canBuild; rw [hinv.pendA, hinv.pendR]; rfl
  · exact hinv.vars (t, v) (List.mem_of_getElem? (List.getElem?_zip_eq_some.2 ⟨ht, hv'⟩))
  · exact fun d hd => ⟨_, hinv.sim.map.keys d hd, hinv.sim.map.range d hd, hinv.sim.map.shape d hd⟩

/-- each pair of variants holds data with the same names and type information -/
theorem C20_same_type_information (reqs : List Req) (hv : ∀ r ∈ reqs, r.valid) (src : Definition)
    (hb : (run reqs).build = some src) (st : Strategy) :
    ∃ r, replay src st = .ok r ∧
      ∀ (k : Nat) (t v : List Nat), r.tgt.variants[k]? = some t → src.variants[k]? = some v →
        (t.map (fun d => shapeOf (info r.tgt.defs d))).Perm (v.map (fun d => shapeOf (info src.defs d))) := by
  obtain ⟨r, hr, _, _, _, hvars, hlk, _⟩ := C20_replay reqs hv src hb st
  refine ⟨r, hr, fun k t v ht hv' => ((hvars k t v ht hv').map _).trans (.of_eq ?_)⟩
  rw [List.map_map]
  refine List.map_congr_left fun d hd => ?_
  obtain ⟨d', hd', _, h1, h2, h3, h4, h5⟩ := hlk d (List.mem_flatten_of_mem (List.mem_of_getElem? hv') hd)
  simp only [Function.comp, F_of_lookup hd', shapeOf, h1, h2, h3, h4, h5]

theorem C20_map_keys_any_source (src : Definition) (st : Strategy) (r : RState)
    (h : replay src st = .ok r) : r.vMap.map (·.1) = List.range src.variants.length := by
  unfold replay at h
  have := replayVariants_keys src.defs st src.variants {} none 0 r h
  simpa [List.range_eq_range'] using this

/-- the replay leaves the target builder ready: `build()` succeeds on it, and the definition it
    returns has as many variants as the source, each with as many data as its source variant -/
theorem C20_target_builds (reqs : List Req) (hv : ∀ r ∈ reqs, r.valid) (src : Definition)
    (hb : (run reqs).build = some src) (st : Strategy) :
    ∃ r tgtDef, replay src st = .ok r ∧ r.tgt.build = some tgtDef ∧
      tgtDef.variants.length = src.variants.length ∧
      ∀ (k : Nat) (t v : List Nat), tgtDef.variants[k]? = some t → src.variants[k]? = some v →
        t.length = v.length := by
  obtain ⟨r, hr, hlen, _, hcb, hvars, _⟩ := C20_replay reqs hv src hb st
  refine ⟨r, _, hr, BState.build_of_canBuild hcb, hlen, fun k t v ht hv' => ?_⟩
  rw [(hvars k t v ht hv').length_eq, List.length_map]

/-- non-vacuity: the example history replays, with the identity variant map -/
example : (match (run Ex.h1).build with
    | some d => (match replay d .basic with | .ok r => r.vMap | _ => [])
    | none => []) = [(0, 0), (1, 1), (2, 2)] := by
  rw [Ex.run_h1]
  decide +kernel

/-- non-vacuity of the premises: the example history is valid and builds -/
example : (∀ r ∈ Ex.h1, r.valid) ∧ ((run Ex.h1).build).isSome = true :=
  ⟨by decide, by rw [Ex.run_h1]; rfl⟩

end Truc
