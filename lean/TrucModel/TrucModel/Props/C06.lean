import TrucModel.Proofs.Reachable
/-
  C06 — Everything stored in a record is destroyed exactly once.
  `C06_end_of_life`: dropping any reachable record destroys exactly the droppable values its fields
  hold, unpacking it destroys nothing and hands them back; `C06_removed_dropped`: a conversion that
  does not return the removed fields destroys exactly those; with `C05_convert` this is the ledger
  balance along any life cycle.  The two `_partial` lemmas are single-load forms of the same facts: a
  droppable value that has been read out of a buffer holding it once cannot be read out again (the
  second attempt is a machine error, not a silent double drop), and reading it out does not disturb
  any other field.
-/
namespace Truc.Mach
open Truc.Gen

/-- once read out, a value is gone: when the datum's key is unique in the buffer, a second load of a
    droppable datum fails -/
theorem C06_no_second_read_partial (dr : String → Bool) (b b' : Buf) (d : D) (v : Val) (hd : dr d.ty = true)
    (huniq : ∀ e1 ∈ b.exts, ∀ e2 ∈ b.exts, keyOf d e1 = true → keyOf d e2 = true → e1 = e2)
    (hnodup : b.exts.Nodup)
    (h : b.load dr d = .ok (v, b')) : b'.load dr d = .error .readMoved ∨ b'.load dr d = .error .oob := by
  obtain ⟨_, _, hcase⟩ := load_effect h
  have hnone : b'.find d = none := by
    rcases hcase with ⟨he, hpod | hf⟩ | ⟨he, _, _⟩
    · rw [hd] at hpod; cases hpod
    · rw [find_eq, he]; exact hf
    · -- the extents with `d`'s key were at most one, and the first has just lost it
      rw [find_eq_head, he, filter_key_markFirst_self]
      have hnd := hnodup.sublist (List.filter_sublist (p := keyOf d))
      cases hv : b.exts.filter (keyOf d) with
      | nil => rfl
      | cons x xs =>
        cases xs with
        | nil => rfl
        | cons y ys =>
          have hx := List.mem_filter.1 (hv ▸ List.mem_cons_self : x ∈ b.exts.filter (keyOf d))
          have hy := List.mem_filter.1 (hv ▸ List.mem_cons_of_mem _ List.mem_cons_self : y ∈ b.exts.filter (keyOf d))
          rw [hv, List.nodup_cons] at hnd
          exact absurd (huniq x hx.1 y hy.1 hx.2 hy.2 ▸ List.mem_cons_self) hnd.1
  unfold Buf.load
  by_cases hc : d.offset + d.size > b'.cap
  · exact .inr (if_pos hc)
  · rw [if_neg hc, hnone]
    exact .inl (if_pos hd)

/-- reading a field out leaves every other field as it was -/
theorem C06_read_frame_partial (b : Buf) (d d' : D)
    (h : ¬(d.offset = d'.offset ∧ d.size = d'.size ∧ d.ty = d'.ty)) : (b.markMoved d).find d' = b.find d' :=
  markMoved_frame b d d' h

/-- program level, simplest life cycle. A record built by the generated constructor and then
    dropped destroys exactly the droppable values that were moved into it — each once (the list has
    one entry per field) — and the constructor itself destroys nothing. -/
theorem C06_new_then_drop (dr : String → Bool) (cap : Nat) (s : Spec) (hwf : WFData cap s.data) (vals : List Val)
    (hl : vals.length = s.data.length) (hty : ∀ p ∈ s.data.zip vals, p.2.ty = p.1.ty) :
    ∃ b st st', call dr cap (ctorNew s) { args := [("from", fieldsOf s.data vals)] } = .ok st ∧ st.result = .record b ∧ st.drops = [] ∧
      call dr cap (dropFn s) { self_ := some b } = .ok st' ∧ st'.drops = vals.filter (fun v => dr v.ty) := by
  obtain ⟨st', hd, hdr, _⟩ := drop_ok dr cap s _ rfl hwf
    (RecInv.built_all dr hwf.apart hl hty)
  rw [map_valOf_built hwf.apart hl hty] at hdr
  exact ⟨_, _, st', ctorNew_ok dr cap s hwf vals hl, rfl, rfl, hd, hdr⟩

/-- … and when it is unpacked instead, nothing at all is destroyed: every value is handed back -/
theorem C06_new_then_unpack (dr : String → Bool) (cap : Nat) (s : Spec) (hwf : WFData cap s.data) (hrec : "record" ∉ s.data.map (·.name))
    (vals : List Val) (hl : vals.length = s.data.length) (hty : ∀ p ∈ s.data.zip vals, p.2.ty = p.1.ty) :
    ∃ b st st', call dr cap (ctorNew s) { args := [("from", fieldsOf s.data vals)] } = .ok st ∧ st.result = .record b ∧ st.drops = [] ∧
      call dr cap (unpackFn s) { self_ := some b, selfGlue := some s.data } = .ok st' ∧ st'.drops = [] ∧
      st'.result = .struct ((s.data.map (·.name)).zip vals) none := by
  obtain ⟨st', hu, hr, hd⟩ := unpack_ok dr cap s _ rfl hwf hrec
    (RecInv.built_all dr hwf.apart hl hty)
  rw [map_valOf_built hwf.apart hl hty] at hr
  exact ⟨_, _, st', ctorNew_ok dr cap s hwf vals hl, rfl, rfl, hu, hd, hr⟩

/-- any life cycle. A record reached by any sequence of constructor / conversions / writes, when
    finally dropped, destroys exactly the droppable values its fields hold (one per droppable field,
    none twice: `RecInv.atMost`), without machine error; when unpacked it destroys nothing and hands
    every field value back. Together with `C05_convert` (a conversion destroys exactly the removed
    droppable values, or returns them) every value moved in is destroyed or handed back exactly once. -/
theorem C06_end_of_life (dr : String → Bool) (cap : Nat) (specs : List Spec) (hm : ModuleWF dr cap specs)
    (k : Nat) (b : Buf) (h : Reach dr cap specs k b) :
    ∃ s, specs[k]? = some s ∧
      (∃ st, call dr cap (dropFn s) { self_ := some b } = .ok st ∧ st.drops = (s.data.map (valOf b)).filter (fun v => dr v.ty)) ∧
      ("record" ∉ s.data.map (·.name) →
        ∃ st, call dr cap (unpackFn s) { self_ := some b, selfGlue := some s.data } = .ok st ∧ st.drops = [] ∧
          st.result = .struct ((s.data.map (·.name)).zip (s.data.map (valOf b))) none) := by
  obtain ⟨s, hs, hc, hinv⟩ := reach_inv dr cap specs hm k b h
  have hwf := hm.data s (List.mem_of_getElem? hs)
  refine ⟨s, hs, ?_, ?_⟩
  · obtain ⟨st, h1, h2, _⟩ := drop_ok dr cap s b hc hwf hinv
    exact ⟨st, h1, h2⟩
  · intro hrec
    obtain ⟨st, h1, h2, h3⟩ := unpack_ok dr cap s b hc hwf hrec hinv
    exact ⟨st, h1, h3, h2⟩

/-- fields removed by a conversion that does not return them are destroyed by that conversion -/
theorem C06_removed_dropped (dr : String → Bool) (cap : Nat) (sp0 sp : Spec) (uninit : Bool)
    (hw : ConvWF cap sp0.data sp.data sp.minus sp.plus) (b0 : Buf) (hcap : b0.cap = cap) (hinv : RecInv dr b0 sp0.data)
    (hrec : "record" ∉ sp.minus.map (·.name)) (hpod : ∀ d ∈ sp.plus, d.uninit = true → dr d.ty = false)
    (hz : ∀ p ∈ sp.plus, p.size = 0 → dr p.ty = true)
    (vals : List Val) (hl : vals.length = (plusWritten sp uninit).length)
    (hty : ∀ p ∈ (plusWritten sp uninit).zip vals, p.2.ty = p.1.ty) :
    ∃ st, call dr cap (convFn sp uninit false)
        { from_ := some b0, fromGlue := some sp0.data, args := [("plus", fieldsOf (plusWritten sp uninit) vals)] } = .ok st ∧
      st.drops = (minusVals sp b0).filter (fun v => dr v.ty) := by
  obtain ⟨b2, st, hcall, _, hres, _⟩ := conv_ok dr cap sp0 sp uninit false hw b0 hcap hinv hrec hpod hz vals hl hty
  exact ⟨st, hcall, hres.2⟩

/-- a heap value is read out once; the second read is the machine error `readMoved` -/
example :
    let a : D := ⟨0, "a", "H", 8, 8, 0, false⟩
    let b : Buf := ⟨16, [⟨0, 8, ⟨5, "H"⟩, false⟩]⟩
    (match b.load (fun t => t == "H") a with
     | .ok (v, b') => (v.id == 5) && (match b'.load (fun t => t == "H") a with | .error .readMoved => true | _ => false)
     | .error _ => false) = true := by decide +kernel

end Truc.Mach
