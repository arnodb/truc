import TrucModel.Proofs.VecSpec
import TrucModel.Proofs.StaticProps
/-
  C10 — Vector conversion refuses element types of different size or alignment.
-/
namespace Truc.Vec

variable {T U E P : Type}

/-- different size or different alignment: refused before any element is read, the converter is
    never called, and the input vector is dropped normally (each element exactly once) -/
theorem C10_refuse (layT layU : Nat × Nat) (h : layT.1 ≠ layU.1 ∨ layT.2 ≠ layU.2)
    (conv : Nat → T → Option U → COut U E P) (input : List T) :
    tryConvert layT layU conv input = .refused (input.map .inp) [] := by
  rw [tryConvert_eq, if_pos h]

/-- and equal layouts are never refused -/
theorem C10_accept (lay : Nat × Nat) (conv : Nat → T → Option U → COut U E P) (input : List T) :
    ∀ d c, tryConvert lay lay conv input ≠ .refused d c := by
  rw [tryConvert_refines]
  exact ofSpec_ne_refused _

/-- the refusal never hits truc's own use: the record types generated for two variants of one
    definition have the same (modelled) layout for every capacity, so a vector of one is always
    accepted for in-place conversion into a vector of the other -/
theorem C10_variants_never_refused (d : Definition) (cap : Nat) (s₁ s₂ : Gen.Spec)
    (h₁ : s₁ ∈ Gen.specs d) (h₂ : s₂ ∈ Gen.specs d)
    (conv : Nat → T → Option U → COut U E P) (input : List T) :
    ∀ dr c, tryConvert (Gen.recLayout cap s₁.align) (Gen.recLayout cap s₂.align) conv input ≠ .refused dr c := by
  rw [Gen.specs_align d s₁ h₁, Gen.specs_align d s₂ h₂]
  exact C10_accept _ conv input

/-- the refusal is decided by the two layouts alone: it does not depend on the converter or on the
    contents or length of the input -/
theorem C10_refusal_depends_on_layouts_only (layT layU : Nat × Nat)
    (conv₁ conv₂ : Nat → T → Option U → COut U E P) (in₁ in₂ : List T) :
    (∃ d c, tryConvert layT layU conv₁ in₁ = .refused d c) ↔ (∃ d c, tryConvert layT layU conv₂ in₂ = .refused d c) := by
  rw [tryConvert_refused_iff, tryConvert_refused_iff]

example : tryConvert (E := Unit) (P := Unit) (8, 8) (8, 4) (fun _ (t : Nat) _ => .converted t none) [1, 2]
    = .refused [.inp 1, .inp 2] [] := by decide +kernel

end Truc.Vec
