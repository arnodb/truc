import TrucModel.Proofs.Corollaries
import TrucModel.Proofs.StaticProps
import TrucModel.Proofs.GenCheckProps
import TrucModel.Props.ExampleRun
/-
  C13 — Any definition the builder accepts can be displayed, generated and compiled.
  This file: nothing panics (strategies, Display, capacity, alignment, `generate()`); the compile half
  is modelled by the three compiler rules of `Model/Static.lean` (`C11_accepts_when_right`: a generated
  module whose recorded type information is right is accepted) and by two more rules over the function
  bodies, `Model/GenCheck.lean`: a binding is used only while in scope and not moved out, `data` is
  stored into only when declared `mut` (`C13_bodies_pass_move_and_mut_rules`). The rest of rustc is
  carried by channel X, which compiles every sampled module with all four fragment selections in three builds.
-/
namespace Truc

/-- no strategy panics, at any point of any valid history -/
theorem C13_close_no_panic (reqs : List Req) (hv : ∀ r ∈ reqs, r.valid) (st : Strategy) (hn : st.isNative = true) :
    ((run reqs).close st).isSome = true := by
  obtain ⟨s', vid, hc, _⟩ := (reachable_BInv reqs hv).close hn
  rw [hc]; rfl

/-- `Display` never hits its "offset clash" panic -/
theorem C13_display_no_panic (reqs : List Req) (hv : ∀ r ∈ reqs, r.valid) (d : Definition)
    (hb : (run reqs).build = some d) : d.display.isSome = true :=
  display_isSome d fun v hvm => (built_inv hv hb v hvm).sorted

/-- the capacity computation does not overflow as long as the layout itself fits in `usize`
    (in particular a datum added and removed again before its variant is closed, whose offset is
    still `usize::MAX`, is not looked at) -/
theorem C13_maxSize_no_panic (d : Definition)
    (hfit : ∀ v ∈ d.variants, ∀ id ∈ v, off d.defs id + sz d.defs id < 2 ^ 64) : d.maxSize.isSome = true := by
  unfold Definition.maxSize
  dsimp only
  split
  · rename_i hany
    obtain ⟨e, he, hge⟩ := List.any_eq_true.1 hany
    obtain ⟨id, hid, rfl⟩ := List.mem_map.1 he
    obtain ⟨v, hv, hidv⟩ := List.mem_flatten.1 hid
    exact absurd (hfit v hv id hidv) (Nat.not_lt_of_le (of_decide_eq_true hge))
  · rfl

/-- `generate()` does not panic on a definition built from valid requests whose layout fits in `usize`,
    whatever the fragment selection -/
theorem C13_generate_no_panic (reqs : List Req) (hv : ∀ r ∈ reqs, r.valid) (d : Definition)
    (hb : (run reqs).build = some d) (cfg : Gen.Cfg)
    (hfit : ∀ v ∈ d.variants, ∀ id ∈ v, off d.defs id + sz d.defs id < 2 ^ 64) :
    (Gen.module d cfg).isSome = true ∧ d.display.isSome = true :=
  ⟨(Gen.module_isSome d cfg).trans (C13_maxSize_no_panic d hfit), C13_display_no_panic reqs hv d hb⟩

/-- the generated function bodies pass the move / mutability rules (E0382, E0425, E0596), for every definition built
    from valid requests in which no field is called like one of the template's own bindings -/
theorem C13_bodies_pass_move_and_mut_rules (reqs : List Req) (hv : ∀ r ∈ reqs, r.valid) (d : Definition)
    (hb : (run reqs).build = some d)
    (hn : ∀ i ∈ d.defs, i.name ≠ "self" ∧ i.name ≠ "plus" ∧ i.name ≠ "from" ∧ i.name ≠ "data") :
    ∀ s ∈ Gen.specs d, Gen.variantChecks s = true := by
  intro s hs
  obtain rfl := BState.build_eq_some hb
  obtain ⟨k, v, hv', rfl⟩ := Gen.mem_specs.1 hs
  have hname := Gen.mkD_name_rec (P := fun n => n ≠ "self" ∧ n ≠ "plus" ∧ n ≠ "from" ∧ n ≠ "data") (by simp) hn
  have hnd := (Gen.names_sortIds_perm _ v).nodup_iff.2 ((reachable_BInv_NInv reqs hv).2.variants v (List.mem_of_getElem? hv'))
  apply Gen.variantChecks_ok _ hnd
  · intro _; exact hnd.sublist ((Gen.specOf_plus_sublist ..).map _)
  · intro x hx
    obtain ⟨id, _, rfl⟩ := List.mem_map.1 hx
    exact (hname id).1
  · intro _ x hx
    obtain ⟨id, _, rfl⟩ := List.mem_map.1 hx
    exact (hname id).2

/-- the rules do reject what rustc rejects: a `new_uninit` whose helper binding swallowed `from` -/
example : Gen.checkBody (Gen.params ["from"])
    [.safeFrom "_from" "S" none "from", .letBuf false, .write ⟨0, "a", "P4", 4, 4, 0, false⟩ "from", .retSelfData] = none ∧
    (match (run Ex.h1).build with | some d => (Gen.specs d).map Gen.variantChecks | none => []) = [true, true, true] := by
  rw [Ex.run_h1]
  decide +kernel

/-- non-vacuity, including an add-then-remove-before-close -/
example : (run (Ex.h1 ++ [.add (Ex.I "x" 8 8), .remove 6, .close .simple])).build.isSome = true ∧
    ((run (Ex.h1 ++ [.add (Ex.I "x" 8 8), .remove 6, .close .simple])).build.bind (·.maxSize)) = some 24 := by
  rw [run_append, Ex.run_h1]
  decide +kernel

end Truc
