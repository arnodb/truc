import TrucModel.Proofs.VecSpec
/-
  C09 — A failing or panicking converter loses nothing and frees everything.
-/
namespace Truc.Vec

variable {T U E P : Type}

/-- "loses nothing", as an accounting identity: when the pass fails, every input element was either
    handed to the converter (in order, exactly once) or is among the unconsumed ones the cleanup drops -/
theorem C09_every_input_accounted (conv : Nat → T → Option U → COut U E P) (input : List T)
    (why : Sum E P) (outs : List U) (rest : List T) (calls : List (T × Option U))
    (h : spec conv input [] [] = .failed why outs rest calls) :
    input = calls.map (·.1) ++ rest := by
  simpa [h] using (spec_calls conv input [] []).symm

/-- if the left-to-right pass fails at some call (error value `e` or panic payload `p`), the real
    loop stops there (no later call), drops every output produced so far (as last modified) and every
    input not yet consumed exactly once — `dropped` lists each such slot once and `leaked = []` —,
    releases the buffer, and hands back that very error value / payload.  The consumed inputs were
    handed to the converter (which owns them: `ConverterContract`). -/
theorem C09_cleanup (lay : Nat × Nat) (conv : Nat → T → Option U → COut U E P) (input : List T)
    (why : Sum E P) (outs : List U) (rest : List T) (calls : List (T × Option U))
    (h : spec conv input [] [] = .failed why outs rest calls) :
    tryConvert lay lay conv input = .failed why (outs.map .out ++ rest.map .inp) [] true calls ∧
    ∃ (pre : List T) (t : T) (prev p' : Option U),
      input = pre ++ t :: rest ∧ calls.map (·.1) = pre ++ [t] ∧ calls.getLast? = some (t, prev) ∧
      ((∃ e, why = .inl e ∧ conv (calls.length - 1) t prev = .err e p') ∨
       (∃ p, why = .inr p ∧ conv (calls.length - 1) t prev = .panic p p')) := by
  refine ⟨by rw [tryConvert_refines, h]; rfl, ?_⟩
  obtain ⟨t, prev, p', hlast, hwhy⟩ := spec_failed conv input [] [] h
  obtain ⟨init, rfl⟩ := List.getLast?_eq_some_iff.1 hlast
  -- the inputs of the calls before the last are the prefix
  have hacc := C09_every_input_accounted conv input why outs rest _ h
  rw [List.map_append, List.append_assoc] at hacc
  exact ⟨init.map (·.1), t, prev, p', hacc, List.map_append, hlast, hwhy⟩

/-- whatever the layouts, the converter and the input: no outcome leaves a live element behind or
    keeps the buffer of a failed run, and no outcome is a memory error -/
theorem C09_never_leaks (layT layU : Nat × Nat) (conv : Nat → T → Option U → COut U E P) (input : List T) :
    match tryConvert layT layU conv input with
    | .done _ leaked _ => leaked = []
    | .failed _ _ leaked freed _ => leaked = [] ∧ freed = true
    | .refused dropped _ => dropped = input.map .inp
    | .ub _ => False := by
  rw [tryConvert_eq]
  by_cases h : layT.1 ≠ layU.1 ∨ layT.2 ≠ layU.2
  · rw [if_pos h]
  · rw [if_neg h]
    cases spec conv input [] [] <;> simp [ofSpec]

/-- every run ends in exactly one of the two ways, never in a memory error -/
theorem C09_no_memory_error (lay : Nat × Nat) (conv : Nat → T → Option U → COut U E P) (input : List T) :
    ∀ e, tryConvert lay lay conv input ≠ .ub e := by
  intro e h
  have := C09_never_leaks lay lay conv input
  rwa [h] at this

/-- non-vacuity: failure at the third of four elements, after one conversion and one abandon -/
example : tryConvert (E := String) (P := Unit) (8, 8) (8, 8)
    (fun k (t : Nat) (p : Option Nat) =>
      if k = 0 then .converted (t * 10) p else if k = 1 then .abandoned (p.map (· + 1)) else .err "boom" p) [1, 2, 3, 4]
    = .failed (.inl "boom") [.out 11, .inp 4] [] true [(1, none), (2, some 10), (3, some 11)] := by decide +kernel

end Truc.Vec
