import TrucModel.Proofs.Corollaries
import TrucModel.Props.ExampleRun
import TrucModel.Proofs.StaticProps
/-
  C02 — Every datum is aligned, inside the published capacity, listed in address order.
-/
namespace Truc

/-- every datum's offset is a multiple of its alignment -/
theorem C02_aligned (reqs : List Req) (hv : ∀ r ∈ reqs, r.valid) :
    ∀ v ∈ (run reqs).variants, ∀ d ∈ v, al (run reqs).defs d ∣ off (run reqs).defs d :=
  fun v hvm d hd => ((reachable_BInv reqs hv).vinv v hvm).aligned d hd

/-- offset + size never exceeds the capacity (`max_size()`, the number emitted as `MAX_SIZE`) -/
theorem C02_contained (reqs : List Req) (def_ : Definition) (hb : (run reqs).build = some def_)
    (m : Nat) (hm : def_.maxSize = some m) :
    ∀ v ∈ def_.variants, ∀ d ∈ v, off def_.defs d + sz def_.defs d ≤ m :=
  fun _ hvm _ => maxSize_ge hm hvm

/-- the alignment imposed on the record types (`max_type_align()`) is a multiple of every datum's
    alignment, when alignments are powers of two -/
theorem C02_record_align (reqs : List Req) (def_ : Definition) (hb : (run reqs).build = some def_)
    (hp : ∀ i ∈ def_.defs, IsPow2 i.align) :
    ∀ v ∈ def_.variants, ∀ d ∈ v, d < def_.defs.length → al def_.defs d ∣ def_.maxTypeAlign :=
  fun _ _ _ _ hlt => maxTypeAlign_dvd def_ hp (List.mem_of_getElem? (getElem?_eq_some_info hlt))

/-- list order is address order: a datum listed earlier ends at or before the start of every datum
    listed later; hence non-zero-size data are strictly increasing in offset -/
theorem C02_order (reqs : List Req) (hv : ∀ r ∈ reqs, r.valid) :
    ∀ v ∈ (run reqs).variants,
      v.Pairwise (fun a b => off (run reqs).defs a + sz (run reqs).defs a ≤ off (run reqs).defs b) :=
  fun v hvm => ((reachable_BInv reqs hv).vinv v hvm).sorted

theorem C02_order_strict (reqs : List Req) (hv : ∀ r ∈ reqs, r.valid) :
    ∀ v ∈ (run reqs).variants,
      (v.filter (fun d => 0 < sz (run reqs).defs d)).Pairwise
        (fun a b => off (run reqs).defs a < off (run reqs).defs b) := by
  intro v hvm
  refine List.Pairwise.imp_of_mem (fun {a b} ha _ hab => ?_) ((C02_order reqs hv v hvm).sublist List.filter_sublist)
  exact Nat.lt_of_lt_of_le (Nat.lt_add_of_pos_right (of_decide_eq_true (List.mem_filter.1 ha).2)) hab

/-- the numbers of the theorems above are the ones published with the generated code: `MAX_SIZE` is
    `max_size()`, and `RecordUninitialized` as well as *every* record struct carry
    `#[repr(align(max_type_align()))]` -/
theorem C02_published (d : Definition) (cfg : Gen.Cfg) (items : List Gen.Item) (h : Gen.module d cfg = some items) :
    ∃ ms, d.maxSize = some ms ∧
      Gen.Item.raw s!"pub const MAX_SIZE:usize={ms};" ∈ items ∧
      Gen.Item.raw (s!"#[repr(align({d.maxTypeAlign}))]pub struct RecordUninitialized<{Gen.CAPG}>" ++ "{_data:RecordMaybeUninit<CAP>,}") ∈ items ∧
      ∀ s ∈ Gen.specs d,
        Gen.Item.raw (s!"#[repr(align({d.maxTypeAlign}))]pub struct {Gen.capped s.vid}<{Gen.CAPG}>" ++ "{data:RecordMaybeUninit<CAP>,}") ∈ items := by
  unfold Gen.module at h
  split at h
  · cases h
  · rename_i ms hm
    obtain rfl := Option.some.inj h
    -- `items` is `uses ++ serde uses ++ [MAX_SIZE, RecordUninitialized] ++ variants ++ size assertions ++ align assertions`;
    -- membership is shown part by part, so that no item (a string) is compared with another
    refine ⟨ms, hm, ?_, ?_, ?_⟩
    · exact List.mem_append_left _ <| List.mem_append_left _ <| List.mem_append_left _ <| List.mem_append_right _ <|
        List.mem_cons_self
    · exact List.mem_append_left _ <| List.mem_append_left _ <| List.mem_append_left _ <| List.mem_append_right _ <|
        List.mem_cons_of_mem _ List.mem_cons_self
    · intro s hs
      refine List.mem_append_left _ <| List.mem_append_left _ <| List.mem_append_right _ <|
        List.mem_flatten.2 ⟨_, List.mem_map_of_mem hs, ?_⟩
      rw [← Gen.specs_align d s hs]
      exact Gen.fragRecord_mem_variantItems cfg s List.mem_cons_self

/-- the published capacity is not merely an upper bound: it is *attained* — either the definition
    stores nothing (capacity 0) or some datum of some variant ends exactly at `MAX_SIZE`; so no
    smaller constant would contain every datum (`C02_contained` is tight) -/
theorem C02_capacity_tight (def_ : Definition) (m : Nat) (hm : def_.maxSize = some m) :
    m = 0 ∨ ∃ v ∈ def_.variants, ∃ d ∈ v, off def_.defs d + sz def_.defs d = m := by
  rw [maxSize_eq_some hm]
  rcases List.mem_cons.1 (foldl_max_spec 0 ((def_.variants.flatten).map (fun id => stop def_.defs id))).1 with h | h
  · exact .inl h
  · obtain ⟨id, hid, he⟩ := List.mem_map.1 h
    obtain ⟨v, hv, hidv⟩ := List.mem_flatten.1 hid
    exact .inr ⟨v, hv, id, hidv, he⟩

/-- the three statements combined, in the form a user of the generated code relies on: for a
    definition built from any valid history, if the record buffer starts at an address that is a
    multiple of the imposed record alignment (`#[repr(align(max_type_align()))]`), then the *absolute
    address* of every datum of every variant is a multiple of that datum's alignment and the datum's
    bytes lie inside `[base, base + MAX_SIZE)` -/
theorem C02_address_aligned_contained (reqs : List Req) (hv : ∀ r ∈ reqs, r.valid) (def_ : Definition)
    (hb : (run reqs).build = some def_) (hp : ∀ i ∈ def_.defs, IsPow2 i.align)
    (m : Nat) (hm : def_.maxSize = some m) (base : Nat) (hbase : def_.maxTypeAlign ∣ base) :
    ∀ v ∈ def_.variants, ∀ d ∈ v,
      al def_.defs d ∣ base + off def_.defs d ∧
      base + off def_.defs d + sz def_.defs d ≤ base + m := by
  intro v hvm d hd
  have hinv := built_inv hv hb v hvm
  have h1 := hinv.aligned d hd
  have h2 := C02_record_align reqs def_ hb hp v hvm d hd (hinv.inRange d hd)
  have h3 := C02_contained reqs def_ hb m hm v hvm d hd
  exact ⟨Nat.dvd_add (Nat.dvd_trans h2 hbase) h1, Nat.add_assoc base _ _ ▸ Nat.add_le_add_left h3 base⟩

/-- the data of one variant fit side by side: the sum of their sizes never exceeds the capacity -/
theorem C02_sizes_sum_le_capacity (reqs : List Req) (hv : ∀ r ∈ reqs, r.valid) (def_ : Definition)
    (hb : (run reqs).build = some def_) (m : Nat) (hm : def_.maxSize = some m) :
    ∀ v ∈ def_.variants, (v.map (sz def_.defs)).sum ≤ m := by
  intro v hvm
  have := sum_sizes_le def_.defs m v 0 (built_inv hv hb v hvm).sorted (fun _ => maxSize_ge hm hvm)
    (fun _ _ => Nat.zero_le _) (Nat.zero_le _)
  rwa [Nat.add_zero] at this

/-- non-vacuity of the premises of `C02_address_aligned_contained`: a concrete valid history builds,
    has power-of-two alignments and a finite capacity -/
example : (∀ r ∈ Ex.h1, r.valid) ∧ ((run Ex.h1).build.bind (·.maxSize)) = some 24 ∧
    ((run Ex.h1).build.map (fun d => d.defs.all (fun i => i.align ∈ [1, 2, 4, 8, 16]))) = some true := by
  rw [Ex.run_h1]
  exact ⟨by decide, by decide +kernel⟩

/-- the example history: capacity 24, record alignment 4 = the largest of the recorded alignments -/
example : ((run Ex.h1).build.bind (·.maxSize)) = some 24 ∧ ((run Ex.h1).build.map (·.maxTypeAlign)) = some 4 ∧
    ((run Ex.h1).build.map (fun d => d.defs.map (·.align))) = some [4, 2, 1, 4, 1, 2] := by
  rw [Ex.run_h1]
  decide +kernel

end Truc
