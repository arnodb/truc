import TrucModel.Proofs.BuilderProps
import TrucModel.Props.ExampleRun
/-
  C12 — A variant is its predecessor minus removals plus additions; bad requests fail.
  Stated for the generic builder state machine (the native builder is this one with
  `NativeDatumDetails`; channel L drives both).
-/
namespace Truc

/-- each closed variant is exactly (previous variant − removals) + additions, as a permutation
    (so also as a set and with multiplicities); the returned id is the new variant's index -/
theorem C12_membership (reqs : List Req) (hv : ∀ r ∈ reqs, r.valid) (st : Strategy) (hn : st.isNative = true)
    (hp : (run reqs).hasPendingChanges = true) :
    ∃ defs' l', (run reqs).close st =
        some ({ defs := defs', variants := (run reqs).variants ++ [l'], toAdd := [], toRemove := [] },
              (run reqs).variants.length) ∧
      l'.Perm (removeData (((run reqs).variants.getLast?).getD []) (run reqs).toRemove ++ (run reqs).toAdd) := by
  obtain ⟨defs', l', hc, hok⟩ := (reachable_BInv reqs hv).close_spec hn hp
  exact ⟨defs', l', hc, hok.perm⟩

/-- the same for the generic builder's own strategies, from any state -/
theorem C12_membership_generic (s : BState) (st : Strategy) (hn : st.isNative = false)
    (hp : s.hasPendingChanges = true) :
    ∃ l', s.close st = some ({ defs := s.defs, variants := s.variants ++ [l'], toAdd := [], toRemove := [] },
        s.variants.length) ∧
      l'.Perm (removeData ((s.variants.getLast?).getD []) s.toRemove ++ s.toAdd) := by
  obtain ⟨l', hc, hfr⟩ := close_generic hn hp
  exact ⟨l', hc, hfr.perm⟩

/-- identifiers are never reused: an accepted addition returns the size of the collection, which
    never shrinks, so every later identifier is strictly greater -/
theorem C12_fresh_ids (s : BState) (i : Info) (id : Nat) (h : (s.addDatum i).2 = .ok id) :
    id = s.defs.length ∧ (s.addDatum i).1.defs.length = s.defs.length + 1 := by
  rcases addDatum_cases s i with ⟨_, he⟩ | ⟨_, he⟩ <;> rw [he] at h ⊢
  · cases h
  · exact ⟨(Except.ok.inj h).symm, List.length_append⟩

theorem C12_ids_monotone (reqs : List Req) (hv : ∀ r ∈ reqs, r.valid) (r : Req) (hr : r.valid) :
    (run reqs).defs.length ≤ (step (run reqs) r).defs.length :=
  ((reachable_BInv reqs hv).step_stable hr).grows

/-- names are unique within every variant and within the pending view, in every reachable state -/
theorem C12_unique_names (reqs : List Req) (hv : ∀ r ∈ reqs, r.valid) :
    (∀ v ∈ (run reqs).variants, (v.map (fun d => (info (run reqs).defs d).name)).Nodup) ∧
    ((run reqs).currentData.map (fun d => (info (run reqs).defs d).name)).Nodup :=
  ⟨(reachable_BInv_NInv reqs hv).2.variants, (reachable_BInv_NInv reqs hv).2.current⟩

/-- a rejected request leaves the builder's state unchanged -/
theorem C12_reject_unchanged_add (s : BState) (i : Info) (e : ErrKind) (h : (s.addDatum i).2 = .error e) :
    (s.addDatum i).1 = s := by
  rcases addDatum_cases s i with ⟨_, he⟩ | ⟨_, he⟩
  · rw [he]
  · rw [he] at h; cases h

theorem C12_reject_unchanged_remove (s : BState) (id : Nat) (e : ErrKind) (h : (s.removeDatum id).2 = .error e) :
    (s.removeDatum id).1 = s := by
  rcases removeDatum_cases s id with ⟨⟨_, he⟩, _⟩ | ⟨_, _, he⟩ | ⟨_, _, he⟩
  · rw [he]
  · rw [he] at h; cases h
  · rw [he] at h; cases h

/-- a duplicate name in the current view is rejected; a fresh one is accepted -/
theorem C12_dup_rejected (s : BState) (i : Info) :
    (s.addDatum i).2 = .error .dupName ↔ (s.currentByName i.name).isSome = true := by
  rcases addDatum_cases s i with ⟨hs, he⟩ | ⟨hn, he⟩ <;> rw [he]
  · exact ⟨fun _ => hs, fun _ => rfl⟩
  · exact ⟨nofun, fun hs => absurd (hs.symm.trans hn) nofun⟩

/-- a removal is accepted exactly when the datum is in the current view: absent, stale, unknown and
    already-removed identifiers are rejected -/
theorem C12_remove_ok_iff (reqs : List Req) (hv : ∀ r ∈ reqs, r.valid) (id : Nat) :
    ((run reqs).removeDatum id).2 = .ok () ↔ id ∈ (run reqs).currentData :=
  removeDatum_ok_iff (reachable_BInv reqs hv) id

/-- finishing with unclosed changes is refused (panic) -/
theorem C12_build_pending (s : BState) : s.build = none ↔ (s.toAdd ≠ [] ∨ s.toRemove ≠ []) := by
  unfold BState.build BState.canBuild
  cases s.toAdd <;> cases s.toRemove <;> simp

/-- closing with no pending change creates no variant and returns the last variant's id -/
theorem C12_noop_close (s : BState) (st : Strategy) (hp : s.hasPendingChanges = false) :
    s.close st = some (s, s.variants.length - 1) :=
  close_of_not_pending st hp

/-- a variant never lists a datum twice and lists only data the builder knows: with `C12_membership`
    (a permutation, hence with multiplicities) this makes "minus removals plus additions" a statement
    about sets of distinct, existing data -/
theorem C12_variant_distinct_known (reqs : List Req) (hv : ∀ r ∈ reqs, r.valid) :
    ∀ v ∈ (run reqs).variants, v.Nodup ∧ ∀ d ∈ v, d < (run reqs).defs.length :=
  fun v hvm => ⟨((reachable_BInv reqs hv).vinv v hvm).nodup, ((reachable_BInv reqs hv).vinv v hvm).inRange⟩

/-- on the example history: nothing pending after the last close, a removal makes something pending, a stale id and a
    duplicate name are refused with the errors of the real builder -/
example : (run Ex.h1).hasPendingChanges = false ∧ (run (Ex.h1 ++ [.remove 2])).hasPendingChanges = true ∧
    (match ((run Ex.h1).removeDatum 0).2 with | .error .notInPrev => true | _ => false) = true ∧
    (match ((run Ex.h1).addDatum (Ex.I "e" 1 1)).2 with | .error .dupName => true | _ => false) = true := by
  rw [run_append, Ex.run_h1]
  decide +kernel

end Truc
