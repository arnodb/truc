import TrucModel.Proofs.TypeNameProps
import TrucModel.Proofs.LexProps
import TrucModel.Model.Resolver
/-
  C17 — A recorded type name denotes the same type in generated code.
  Types are syntax trees of any depth over paths with generic arguments, tuples, arrays and slices.
  Meaning: where the prelude is in scope and not shadowed, a lone `Box`/`String`/`Vec`/`Option`/`Result`
  is the item at its `alloc::`/`core::` path (`expand` = canonical long form; rustc's name resolution is
  the modelled part, validated by the `fn(T) -> <recorded name>` compile probes of channel T).
-/
namespace Truc.TN

/-- rewriting never changes what the name denotes (module segments carry no generic arguments) -/
theorem C17_denote (t : Ty) (h : ModArgsFree t) : expand (rewrite t) = expand t := expand_rewrite t h

/-- the recorded form is stable: rewriting it again changes nothing -/
theorem C17_idem (t : Ty) : rewrite (rewrite t) = rewrite t := rewrite_idem t

/-- the short spelling and the compiler's fully qualified spelling of the five std types are
    recorded identically, whatever their arguments and wherever they occur -/
theorem C17_short_long (m1 m2 x : String) (args : Tys) (h : preludePath x = some [m1, m2]) :
    rewrite (.path false (.cons m1 .nil (.cons m2 .nil (.cons x args .nil)))) = rewrite (.path false (.cons x args .nil)) := by
  have hstd : isStdPath false (Segs.cons m1 .nil (.cons m2 .nil (.cons x args .nil))).names = true :=
    isStdPath_iff.2 ⟨rfl, m1, m2, x, rfl, h⟩
  rw [rewrite_std hstd, rewrite_not_std (segs := .cons x args .nil) (not_std_of_short (Nat.le_refl 1))]
  rfl

/-- whitespace is ignored: two spellings of the same token sequence — any amount of whitespace (also
    none) before, between and after the tokens, as long as two adjacent identifiers stay separated —
    are normalised identically (same result, or both rejected), hence looked up identically in a table -/
theorem C17_whitespace (items₁ items₂ : List (List Char × Tok)) (tr₁ tr₂ : List Char)
    (h₁ : Spaced false items₁) (h₂ : Spaced false items₂) (ht₁ : allWs tr₁) (ht₂ : allWs tr₂)
    (hsame : items₁.map (fun p => p.2.str) = items₂.map (fun p => p.2.str)) :
    normalize (String.ofList (render items₁ tr₁)) = normalize (String.ofList (render items₂ tr₂)) ∧
    ∀ (t : Res.Table), Res.lookup t (String.ofList (render items₁ tr₁)) = Res.lookup t (String.ofList (render items₂ tr₂)) := by
  have hn : normalize (String.ofList (render items₁ tr₁)) = normalize (String.ofList (render items₂ tr₂)) := by
    rw [normalize_ofList, normalize_ofList, parseChars, parseChars, lex_render items₁ tr₁ [] [] ht₁ h₁,
      lex_render items₂ tr₂ [] [] ht₂ h₂, hsame]
  exact ⟨hn, fun t => by unfold Res.lookup; rw [hn]⟩

/-- non-vacuity: `Vec<u8>` and `  Vec < u8 >\t` are two spellings of the same tokens -/
example : Spaced false [([], .ident "Vec".toList), ([], .punct '<'), ([], .ident "u8".toList), ([], .punct '>')] ∧
    Spaced false [("  ".toList, .ident "Vec".toList), (" ".toList, .punct '<'), (" ".toList, .ident "u8".toList), (" ".toList, .punct '>')] ∧
    String.ofList (render [([], .ident "Vec".toList), ([], .punct '<'), ([], .ident "u8".toList), ([], .punct '>')] []) = "Vec<u8>" := by
  refine ⟨?_, ?_, by decide +kernel⟩ <;>
    simp only [Spaced, Tok.wf, Tok.isIdent, allWs] <;> decide +kernel

/-- non-vacuity: concrete names at depth 3, several spellings -/
example : normalize "alloc::vec::Vec<core::option::Option<(u32, alloc::boxed::Box<[u8]>)>>" = some "Vec < Option < (u32 , Box < [u8] >) > >" ∧
    normalize "  Vec <Option< ( u32 ,Box<[ u8 ]>)> >" = some "Vec < Option < (u32 , Box < [u8] >) > >" ∧
    normalize "[alloc::string::String; 42]" = some "[String ; 42]" ∧
    normalize "my_crate::alloc::vec::Vec<u8>" = some "my_crate :: alloc :: vec :: Vec < u8 >" ∧
    normalize "Vec<" = none := by
  rw [normalize_ofList, normalize_ofList, normalize_ofList, normalize_ofList, normalize_ofList]
  decide +kernel

end Truc.TN
