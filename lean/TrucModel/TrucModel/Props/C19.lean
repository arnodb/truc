import TrucModel.Proofs.SizeOrder
import TrucModel.Props.ExampleRun
/-
  C19 — The same definition history always generates byte-identical code.
  In the model the layout and the generated module are *functions* of the request list, so the
  statement about the model is immediate; what carries the property to the implementation is the tie
  (channel L and G: the implementation's offsets / generated text equal this function's value, in
  one process and in separately started processes).  Partial by nature: per-process nondeterminism
  (hash seeds, addresses) cannot be exhibited by a pure model.
-/
namespace Truc

theorem C19_layout_is_function_partial (reqs₁ reqs₂ : List Req) (h : reqs₁ = reqs₂) :
    (run reqs₁).defs.map (·.offset) = (run reqs₂).defs.map (·.offset) ∧ (run reqs₁).variants = (run reqs₂).variants := by
  subst h; exact ⟨rfl, rfl⟩

/-- the one place where the implementation iterates over a map (`BTreeMap` by size in `simple`) is an
    ordered, stable traversal in the model: the result is a permutation that keeps the insertion
    order inside one size class — no dependence on anything but the list -/
theorem C19_size_order_stable (defs : Defs) (add : List Nat) : (sortBySizeDesc defs add).Perm add :=
  sortBySizeDesc_perm defs add

/-- … and it is exactly the traversal the comment above describes, determined by the list alone: the
    result is ordered by decreasing size, and for every size `k` the data of size `k` appear in it in
    the order in which they were requested (stability) — together with `C19_size_order_stable` this
    pins the traversal down uniquely, so nothing a process could vary (map iteration order, addresses,
    hash seeds) can enter the layout through it -/
theorem C19_size_order_sorted_and_stable (defs : Defs) (add : List Nat) :
    (sortBySizeDesc defs add).Pairwise (fun a b => sz defs b ≤ sz defs a) ∧
    ∀ k, (sortBySizeDesc defs add).filter (fun d => sz defs d = k) = add.filter (fun d => sz defs d = k) := by
  rw [← add.reverse_reverse]
  induction add.reverse with
  | nil => exact ⟨.nil, fun _ => rfl⟩
  | cons a r ih =>
    rw [List.reverse_cons, sortBySizeDesc_concat]
    refine ⟨insertBySize_sorted defs a _ ih.1, fun k => ?_⟩
    rw [insertBySize_filter defs a k _ ih.1, ih.2, List.filter_append]

/-- non-vacuity: four data of sizes 2, 8, 2, 8 come out as 8, 8, 2, 2 with request order kept inside each size -/
example : sortBySizeDesc [⟨"a", "u16", 2, 2, 0, false⟩, ⟨"b", "u64", 8, 8, 0, false⟩, ⟨"c", "u16", 2, 2, 0, false⟩,
    ⟨"d", "u64", 8, 8, 0, false⟩] [0, 1, 2, 3] = [1, 3, 0, 2] := by decide +kernel

example : (run Ex.h1).variants.length = 3 := by rw [Ex.run_h1]; rfl

end Truc
