import TrucModel.Proofs.Reachable
import TrucModel.Props.MachExample
/-
  C05 — Converting to the next variant keeps, adds and returns the right values.
  `C05_convert`: full statement for one conversion, all four forms; `C05_chain`: every record reached
  by any chain of conversions (and constructors, and writes) from any variant satisfies the invariant
  that `C05_convert` needs, so the statement holds at every step of every chain.  The `_partial`
  lemmas below them are single-step, buffer-level forms of what the proof uses: reading a removed field
  out, or storing the added ones, leaves every other field alone; the reads precede the stores.
-/
namespace Truc.Mach
open Truc.Gen

/-- one conversion, any of the four forms. For consecutive variants whose field lists are
    well-formed (`ConvWF`: C01/C02/C12 for both variants + how they relate), from a record of the old
    variant satisfying the record invariant: the generated conversion runs without machine error; in
    the new record every carried-over field is found exactly as before, every written added field
    holds the value supplied; the forms that return removed data hand back every removed field's
    value (and destroy nothing), the other forms destroy exactly the removed droppable values; and the
    new record satisfies the invariant again. -/
theorem C05_convert (dr : String → Bool) (cap : Nat) (sp0 sp : Spec) (uninit andOut : Bool)
    (hw : ConvWF cap sp0.data sp.data sp.minus sp.plus) (b0 : Buf) (hcap : b0.cap = cap) (hinv : RecInv dr b0 sp0.data)
    (hrec : "record" ∉ sp.minus.map (·.name)) (hpod : ∀ d ∈ sp.plus, d.uninit = true → dr d.ty = false)
    (hz : ∀ p ∈ sp.plus, p.size = 0 → dr p.ty = true)
    (vals : List Val) (hl : vals.length = (plusWritten sp uninit).length)
    (hty : ∀ p ∈ (plusWritten sp uninit).zip vals, p.2.ty = p.1.ty) :
    ∃ b2 st, call dr cap (convFn sp uninit andOut)
        { from_ := some b0, fromGlue := some sp0.data, args := [("plus", fieldsOf (plusWritten sp uninit) vals)] } = .ok st ∧
      b2.cap = cap ∧
      (if andOut then st.result = .struct ((sp.minus.map (·.name)).zip (minusVals sp b0)) (some b2) ∧ st.drops = []
       else st.result = .record b2 ∧ st.drops = (minusVals sp b0).filter (fun v => dr v.ty)) ∧
      (∀ p ∈ (plusWritten sp uninit).zip vals, b2.find p.1 = some (mkExt p)) ∧
      (∀ d ∈ sp.data, d ∉ sp.plus → b2.find d = b0.find d) ∧
      RecInv dr b2 sp.data :=
  conv_ok dr cap sp0 sp uninit andOut hw b0 hcap hinv hrec hpod hz vals hl hty

/-- any chain. Whatever sequence of constructor / conversion forms / writes produced a record of
    variant `k` of a well-formed module, it has the right capacity and satisfies the invariant — so
    `C05_convert` applies to it, at every step of every chain from the first to the last variant. -/
theorem C05_chain (dr : String → Bool) (cap : Nat) (specs : List Spec) (hm : ModuleWF dr cap specs)
    (k : Nat) (b : Buf) (h : Reach dr cap specs k b) : ∃ s, specs[k]? = some s ∧ b.cap = cap ∧ RecInv dr b s.data :=
  reach_inv dr cap specs hm k b h

/-- non-vacuity of `C05_convert` / `C05_chain`: a concrete well-formed module (`MachExample`), a record
    built by its constructor, converted by the form that returns the removed data with an added field
    written over the removed field's bytes — reachable, hence satisfying the invariant -/
example : ∃ b, Reach Ex.dr 16 Ex.specs 1 b ∧ ∃ s, Ex.specs[1]? = some s ∧ RecInv Ex.dr b s.data := by
  have hc0 := ctorNew_ok Ex.dr 16 Ex.s0 (Ex.moduleWF.data Ex.s0 List.mem_cons_self) [⟨5, "H"⟩, ⟨6, "P4"⟩] rfl
  have r0 : Reach Ex.dr 16 Ex.specs 0 _ := Reach.new 0 Ex.s0 _ _ _ rfl rfl (by decide) hc0 rfl
  obtain ⟨_, hs0, hcap0, hinv0⟩ := reach_inv Ex.dr 16 Ex.specs Ex.moduleWF 0 _ r0
  obtain rfl := Option.some.inj hs0
  obtain ⟨hcw, hrec, hpod, hz⟩ := Ex.moduleWF.convPremises (s0 := Ex.s0) (s := Ex.s1) (k := 0) rfl rfl
  obtain ⟨b2, st, hcall, _, hres, _, _, _⟩ := conv_ok Ex.dr 16 Ex.s0 Ex.s1 false true hcw _ hcap0 hinv0 hrec hpod hz
    [⟨7, "P8"⟩] rfl (by decide)
  have r1 : Reach Ex.dr 16 Ex.specs 1 b2 :=
    Reach.conv 0 Ex.s0 Ex.s1 _ false true [⟨7, "P8"⟩] st b2 r0 rfl rfl rfl (by decide) hcall (Or.inr ⟨_, hres.1⟩)
  obtain ⟨s, hs, _, hinv⟩ := reach_inv Ex.dr 16 Ex.specs Ex.moduleWF 1 b2 r1
  exact ⟨b2, r1, s, hs, hinv⟩

/-- reading a removed field out changes nothing for any other field -/
theorem C05_reading_removed_keeps_others_partial (b : Buf) (removed carried : D)
    (h : ¬(removed.offset = carried.offset ∧ removed.size = carried.size ∧ removed.ty = carried.ty)) :
    (b.markMoved removed).find carried = b.find carried :=
  markMoved_frame b removed carried h

/-- storing all the added fields changes nothing for a carried-over field, provided every added
    field's extent is apart from it — which C01 (on the *new* variant) gives -/
theorem C05_adding_keeps_carried_partial (dr : String → Bool) (carried : D) (added : List (D × Val)) (b b' : Buf)
    (hap : ∀ w ∈ added, w.2.ty = w.1.ty ∧ Apart w.1 carried) (h : storeAll dr b added = .ok b') :
    b'.find carried = b.find carried := by
  rw [storeAll_of_ok dr added b b' h]
  exact find_congr (filter_key_foldl_stored added b.exts hap)

/-- the conversion's program order: every read of a removed field precedes the bit copy, which
    precedes every store of an added field (so an added field may reuse a removed field's bytes) -/
theorem C05_program_order_partial (s : Spec) (uninit andOut : Bool) :
    ∃ pre post, (convFn s uninit andOut).body =
      s.minus.map (fun d => Stmt.readLet ((if andOut then "" else "_") ++ d.name) d "from") ++ pre ++
      [Stmt.manuallyDrop, Stmt.copyBuf ((!uninit && !s.plus.isEmpty) || (uninit && (uninit && s.plus.any (fun d => !d.uninit))))] ++
      (s.plus.filter (fun d => !uninit || !d.uninit)).map (fun d => Stmt.write d "plus") ++ post ∧
      (∀ st ∈ pre, ∃ a b c d, st = Stmt.safeFrom a b c d) ∧
      (∀ st ∈ post, st = Stmt.retSelfData ∨ (∃ c, st = Stmt.letRecord c) ∨ ∃ n fs, st = Stmt.retStruct n fs) := by
  refine ⟨safeStmts s uninit, tailStmts s andOut, ?_, fun st hst => ?_, fun st hst => ?_⟩
  · rw [convFn_body, List.append_assoc, List.append_assoc, List.append_assoc]
    rfl
  · cases uninit with
    | false => exact absurd hst List.not_mem_nil
    | true => exact ⟨_, _, _, _, List.mem_singleton.1 hst⟩
  · cases andOut with
    | false => exact .inl (List.mem_singleton.1 hst)
    | true =>
      rcases List.mem_cons.1 hst with h | h
      · exact .inr (.inl ⟨_, h⟩)
      · exact .inr (.inr ⟨_, _, List.mem_singleton.1 h⟩)

/-- non-vacuity: an added field written over the bytes of a removed (already read) field; the
    carried-over field keeps its value -/
example :
    let a : D := ⟨0, "a", "H", 8, 8, 0, false⟩
    let k : D := ⟨1, "k", "P4", 4, 4, 8, false⟩
    let n : D := ⟨2, "n", "P8", 8, 8, 0, false⟩
    let b : Buf := ⟨16, [⟨0, 8, ⟨5, "H"⟩, false⟩, ⟨8, 4, ⟨6, "P4"⟩, false⟩]⟩
    (match storeAll (fun t => t == "H") (b.markMoved a) [(n, ⟨7, "P8"⟩)] with
     | .ok b' => ((b'.find k).map (·.val.id), (b'.find n).map (·.val.id)) == (some 6, some 7)
     | .error _ => false) = true := by decide +kernel

end Truc.Mach
