import TrucModel.Proofs.VecSpec
/-
  C08 — In-place vector conversion returns exactly the converted elements, in place.
  For every input vector (any length), every converter that never fails (arbitrary function of the
  call index, the input element and the previous output, free to modify the previous output), the
  unsafe loop — modelled slot by slot with use-after-move / overwrite / type-confusion as explicit
  errors — behaves exactly like the plain left-to-right pass `spec`.
-/
namespace Truc.Vec

variable {T U E P : Type}

/-- the loop never hits a memory error and returns exactly what the left-to-right pass produces, in
    the same allocation (`done`), cutting off nothing live (`leaked = []`) -/
theorem C08_result (lay : Nat × Nat) (conv : Nat → T → Option U → COut U E P) (h : neverFails conv) (input : List T) :
    ∃ outs calls, spec conv input [] [] = .ok outs calls ∧
      tryConvert lay lay conv input = .done (outs.map .out) [] calls := by
  obtain ⟨outs, calls, hs⟩ := spec_ok_of_neverFails conv h input [] []
  exact ⟨outs, calls, hs, by rw [tryConvert_refines, hs]; rfl⟩

/-- the converter receives each input element exactly once, in order … -/
theorem C08_calls (conv : Nat → T → Option U → COut U E P) (input : List T) (outs : List U)
    (calls : List (T × Option U)) (h : spec conv input [] [] = .ok outs calls) : calls.map (·.1) = input := by
  simpa [h] using spec_calls conv input [] []

/-- … together with the most recently produced output (none before the first): unfolding of `spec` -/
theorem C08_prev_is_last_output (conv : Nat → T → Option U → COut U E P) (t : T) (rest : List T) (outs : List U)
    (calls : List (T × Option U)) (u : U) (p' : Option U) (hc : conv calls.length t outs.getLast? = .converted u p') :
    spec conv (t :: rest) outs calls = spec conv rest (setLast outs p' ++ [u]) (calls ++ [(t, outs.getLast?)]) := by
  rw [spec, hc]

/-- abandoned elements are skipped: an always-abandoning converter yields the empty vector -/
theorem C08_all_abandoned (lay : Nat × Nat) (input : List T) :
    ∃ calls, tryConvert (E := E) (P := P) (U := U) lay lay (fun _ _ _ => .abandoned none) input = .done [] [] calls := by
  obtain ⟨calls, hs⟩ :=
    spec_abandon (E := E) (P := P) (fun _ (_ : T) (_ : Option U) => .abandoned none) (fun _ _ _ => rfl) input [] []
  exact ⟨calls, by rw [tryConvert_refines, hs]; rfl⟩

/-- the everyday case, stated outright: a converter that converts every element with a function `f`
    and hands the previous output back untouched turns the vector into `input.map f` — same length,
    same order, in the same allocation, nothing leaked — for every input of every length -/
theorem C08_map (lay : Nat × Nat) (f : T → U) (conv : Nat → T → Option U → COut U E P)
    (hc : ∀ k t p, conv k t p = .converted (f t) p) (input : List T) :
    ∃ calls, tryConvert lay lay conv input = .done ((input.map f).map .out) [] calls := by
  obtain ⟨calls, hs⟩ := spec_map f conv hc input [] []
  exact ⟨calls, by rw [tryConvert_refines, hs]; rfl⟩

example : tryConvert (E := Unit) (P := Unit) (8, 8) (8, 8)
    (fun _ (t : Nat) (p : Option Nat) => .converted (t * 10) p) [1, 2, 3]
    = .done [.out 10, .out 20, .out 30] [] [(1, none), (2, some 10), (3, some 20)] := by decide +kernel

/-- non-vacuity: a concrete converter that converts, touches the previous output and abandons -/
example : tryConvert (E := Unit) (P := Unit) (8, 8) (8, 8)
    (fun k (t : Nat) (p : Option Nat) =>
      if k = 1 then .abandoned (p.map (· + 100)) else .converted (t * 10) p) [1, 2, 3]
    = .done [.out 110, .out 30] [] [(1, none), (2, some 10), (3, some 110)] := by decide +kernel

end Truc.Vec
